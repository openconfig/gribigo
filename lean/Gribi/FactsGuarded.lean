/- Checks of `FactsDefs.lean` over the regenerated `Facts.lean`. `decide +kernel`: the kernel alone evaluates
them (plain `decide` has the elaborator evaluate them first, the kernel again). -/
import Gribi.FactsDefs
namespace Gribi.FactsOk
open Gribi.Facts

theorem facts_guarded : guarded = true := by decide +kernel
theorem facts_nonTrivial : nonTrivial = true := by decide +kernel
theorem facts_txSerialised : txSerialised = true := by decide +kernel
theorem facts_handlersAtomic : handlersAtomic = true := by decide +kernel
theorem facts_getHoldsLock : getHoldsLock = true := by decide +kernel

end Gribi.FactsOk
