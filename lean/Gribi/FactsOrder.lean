/- Checks of `FactsDefs.lean` over the regenerated `Facts.lean`. `decide +kernel`: the kernel alone evaluates
them (plain `decide` has the elaborator evaluate them first, the kernel again). -/
import Gribi.FactsDefs
namespace Gribi.FactsOk
open Gribi.Facts

theorem facts_lockOrderAcyclic : lockOrderAcyclic = true := by decide +kernel
theorem facts_noReentrantLock : noReentrantLock = true := by decide +kernel

end Gribi.FactsOk
