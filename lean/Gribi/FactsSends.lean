/- Checks of `FactsDefs.lean` over the regenerated `Facts.lean`. `decide +kernel`: the kernel alone evaluates
them (plain `decide` has the elaborator evaluate them first, the kernel again). -/
import Gribi.FactsDefs
namespace Gribi.FactsOk
open Gribi.Facts

theorem facts_sendsHaveStop : sendsHaveStop = true := by decide +kernel
/-- the sends the C10 / C14 theorems are about are actually found -/
def sendsNonTrivial : Bool :=
  sends.any (fun s => s.fn == "RIBHolder.GetRIB.func" && s.chan == "msgCh") &&
  sends.any (fun s => s.fn == "Client.q")
theorem facts_sends_nonTrivial : sendsNonTrivial = true := by decide +kernel

end Gribi.FactsOk
