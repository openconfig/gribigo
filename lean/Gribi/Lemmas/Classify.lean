/-
`classify` and `classifyDel` as what they decide: a request is valid or not; a valid ADD is
resolved or not; a valid DELETE finds its key or not, referenced or not.
-/
import Gribi.Lemmas.RibBasic
namespace Gribi.Rib
open Spec

/-- the keys the entry `k ↦ p` refers to: `entryResolved`, `qNhg` and `qNh` all speak of membership
in this list (`entryResolved_iff`, `qNhg_iff_refs`, `qNh_iff_refs`) -/
def refs (k : EKey) (p : Payload) : List EKey :=
  match k.2 with
  | .nh _ => []
  | .nhg _ => p.nhs.map fun n => (k.1, .nh n)
  | _ => [(tgtNI k.1 p, .nhg p.grp)]

theorem entryResolved_iff {ents : Map EKey Payload} {k : EKey} {p : Payload} :
    entryResolved ents k p = true ↔ ∀ t ∈ refs k p, ents.has t = true := by
  obtain ⟨ni, key⟩ := k
  cases key with
  | nh _ => exact ⟨fun _ _ => nofun, fun _ => rfl⟩
  | nhg _ => exact List.all_eq_true.trans (List.forall_mem_map (P := fun t => ents.has t = true)).symm
  | _ => exact (List.forall_mem_singleton (p := fun t => ents.has t = true)).symm

theorem refs_top {ni : NI} {key : Key} (hT : key.isTop = true) (p : Payload) :
    (tgtNI ni p, Key.nhg p.grp) ∈ refs (ni, key) p := by
  cases key <;> first | exact List.mem_singleton.mpr rfl | cases hT

theorem isTop_of_mem_refs {t k : EKey} {p : Payload} (h : t ∈ refs k p) : t.2.isTop = false := by
  unfold refs at h
  split at h
  · cases h
  · obtain ⟨n, _, rfl⟩ := List.mem_map.mp h; rfl
  · cases List.mem_singleton.mp h; rfl

/-- what `classify` asks of the entry by itself -/
def Shape (op : Op) : Prop :=
  match op.key with
  | .nh i => i ≠ 0
  | .nhg g => g ≠ 0 ∧ op.pl.nhs ≠ [] ∧ op.pl.nhs.contains 0 = false
  | _ => op.pl.grp ≠ 0

/-- what `classify` asks besides resolution: the order of the conjuncts is not the order of the tests -/
structure Valid (s : Rib) (op : Op) : Prop where
  cls : op.cls = .wf
  shape : Shape op
  replace : op.ty = .replace → s.has (op.ni, op.key) = true
  grpNI : op.key.isTop = true → op.pl.grpNI ≠ "" → s.hasNI op.pl.grpNI = true

theorem classify_spec (s : Rib) (op : Op) :
    (Valid s op ∧ classify s op = if entryResolved s.ents (op.ni, op.key) op.pl then .ok else .hold) ∨
      (¬ Valid s op ∧ classify s op = .err) := by
  obtain ⟨id, ty, ni, key, pl, cls, elec⟩ := op
  unfold classify entryResolved
  by_cases h1 : cls ≠ .wf
  · exact .inr ⟨fun v => h1 v.cls, if_pos h1⟩
  by_cases h2 : ty = .replace ∧ ¬ s.has (ni, key) = true
  · exact .inr ⟨fun v => h2.2 (v.replace h2.1), by rw [if_neg h1, if_pos h2]⟩
  rw [if_neg h1, if_neg h2]
  have h1 : cls = .wf := Decidable.not_not.mp h1
  have h2 : ty = .replace → s.has (ni, key) = true := fun h => Decidable.not_not.mp fun hn => h2 ⟨h, hn⟩
  cases key with
  | nh i =>
    by_cases hi : i = 0
    · exact .inr ⟨fun v => v.shape hi, if_pos hi⟩
    · exact .inl ⟨⟨h1, hi, h2, nofun⟩, if_neg hi⟩
  | nhg g =>
    by_cases hg : g = 0 ∨ pl.nhs = [] ∨ pl.nhs.contains 0 = true
    · exact .inr ⟨fun v => hg.elim v.shape.1 fun h => h.elim v.shape.2.1 fun h =>
        Bool.false_ne_true (v.shape.2.2.symm.trans h), if_pos hg⟩
    · exact .inl ⟨⟨h1, ⟨fun h => hg (.inl h), fun h => hg (.inr (.inl h)),
        Bool.eq_false_iff.mpr fun h => hg (.inr (.inr h))⟩, h2, nofun⟩, if_neg hg⟩
  | v4 _ | v6 _ | mpls _ =>
    by_cases hg : pl.grp = 0
    · exact .inr ⟨fun v => v.shape hg, if_pos hg⟩
    by_cases hn : pl.grpNI ≠ "" ∧ ¬ s.hasNI pl.grpNI = true
    · exact .inr ⟨fun v => hn.2 (v.grpNI rfl hn.1), by rw [if_neg hg, if_pos hn]⟩
    · exact .inl ⟨⟨h1, hg, h2, fun _ h => Decidable.not_not.mp fun hh => hn ⟨h, hh⟩⟩,
        by rw [if_neg hg, if_neg hn]; rfl⟩

theorem classify_ok_iff {s : Rib} {op : Op} :
    classify s op = .ok ↔ Valid s op ∧ entryResolved s.ents (op.ni, op.key) op.pl = true := by
  rcases classify_spec s op with ⟨v, h⟩ | ⟨v, h⟩ <;> rw [h]
  · split <;> simp [*]
  · simp [v]

theorem classify_err_iff {s : Rib} {op : Op} : classify s op = .err ↔ ¬ Valid s op := by
  rcases classify_spec s op with ⟨v, h⟩ | ⟨v, h⟩ <;> rw [h]
  · split <;> simp [v]
  · simp [v]

theorem Valid.tgt {s : Rib} {op : Op} (v : Valid s op) (hT : op.key.isTop = true) (hni : s.hasNI op.ni = true) :
    s.hasNI (tgtNI op.ni op.pl) = true := by
  unfold tgtNI
  split
  · exact hni
  · exact v.grpNI hT ‹_›

/-- the reference counter that guards the deletion of a key; top-level entries have none -/
def guardCnt (s : Rib) (ni : NI) : Key → Nat
  | .nhg g => cnt s.nhgRef (ni, g)
  | .nh i => cnt s.nhRef (ni, i)
  | _ => 0

/-- what `classifyDel` asks of the request alone -/
def delValid (op : Op) : Bool :=
  op.cls == .wf && match op.key with
    | .nhg g => g != 0
    | .nh i => i != 0
    | .mpls l => decide (l ≤ maxLabel)
    | _ => true

theorem classifyDel_spec (s : Rib) (op : Op) : classifyDel s op =
    if delValid op = false then .err
    else if s.has (op.ni, op.key) = false then .absent
    else if guardCnt s op.ni op.key > 0 then .refd else .ok := by
  obtain ⟨id, ty, ni, key, pl, cls, elec⟩ := op
  unfold classifyDel delValid guardCnt
  by_cases hc : cls = .wf
  · by_cases hh : s.has (ni, key) = true <;> cases key <;> simp [hc, hh]
  · simp [hc]

end Gribi.Rib
