/-
Lemmas about the client model `Gribi.Cl` that its users share (C13, the tie by translation): `q` and
`recv` without their inner case distinctions, the loop over the results by what each turn keeps.
-/
import Gribi.Model.Client
namespace Gribi.Cl

theorem q_eq (s : State) (m : Req) :
    q s m =
      { s with pendOps := (addOps s.pendOps s.accepted m.ops).1, accepted := (addOps s.pendOps s.accepted m.ops).2.1,
               pendElec := if (addOps s.pendOps s.accepted m.ops).2.2 then s.pendElec || m.elec else s.pendElec,
               pendParams := if (addOps s.pendOps s.accepted m.ops).2.2 then s.pendParams || m.params else s.pendParams,
               sendErrs := s.sendErrs + (if (addOps s.pendOps s.accepted m.ops).2.2 then 0 else 1),
               sendq := if s.sending then s.sendq else s.sendq ++ [m] } := by
  unfold q
  obtain ⟨_, _, _ | _⟩ := addOps s.pendOps s.accepted m.ops <;> cases s.sending <;> rfl

theorem clearOps_invariant {P : State → Prop} (step : ∀ s r, P s → P (clearOp s r).1) (l : List (Nat × Status)) (s : State)
    (h : P s) : P (clearOps s l).1 := by
  fun_induction clearOps s l with
  | case1 => exact h
  | case2 s r _ _ h1 ih => exact ih (by simpa only [h1] using step s r h)
  | case3 s r _ _ _ h1 => simpa only [h1] using step s r h

theorem recv_eq (s : State) (m : Resp) :
    recv s m =
      if populated m > 1 then ({ s with recvErrs := s.recvErrs + 1 }, false)
      else
        let r := clearOps (noteParams (noteElec s m) m) m.results
        ({ r.1 with recvErrs := r.1.recvErrs + if r.2 then 0 else 1 }, r.2) := by
  unfold recv
  refine ite_congr rfl (fun _ => rfl) fun _ => ?_
  obtain ⟨_, _ | _⟩ := clearOps (noteParams (noteElec s m) m) m.results <;> rfl

end Gribi.Cl
