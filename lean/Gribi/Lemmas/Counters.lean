import Gribi.Lemmas.RibBasic
namespace Gribi.Rib

abbrev CKey := NI × Nat

theorem cnt_insert (m : Map CKey Nat) (k k' : CKey) (v : Nat) :
    cnt (m.insert k v) k' = if k = k' then v else cnt m k' :=
  Map.getD_get?_insert m k k' v 0

theorem cnt_inc (m : Map CKey Nat) (a x : CKey) :
    cnt (inc m a) x = cnt m x + (if x = a then 1 else 0) := by
  rw [inc, cnt_insert]
  by_cases h : a = x
  · rw [if_pos h, if_pos h.symm, h]
  · rw [if_neg h, if_neg (Ne.symm h)]; rfl

/-- holds unconditionally with truncated subtraction: the clamp at zero is the same thing -/
theorem cnt_dec (m : Map CKey Nat) (a x : CKey) :
    cnt (dec m a) x = cnt m x - (if x = a then 1 else 0) := by
  unfold dec
  split
  · split
    · rw [‹x = a›, ‹cnt m a = 0›]
    · rfl
  · rw [cnt_insert]
    by_cases h : a = x
    · rw [if_pos h, if_pos h.symm, h]
    · rw [if_neg h, if_neg (Ne.symm h)]; rfl

/-- `f`, `g` are `inc`, `+` and `dec`, `-`; `Nodup`: a repeated key would have its counter changed twice -/
theorem cnt_foldl (f : Map CKey Nat → CKey → Map CKey Nat) (g : Nat → Nat → Nat) (hg : ∀ c, g c 0 = c)
    (hf : ∀ m a x, cnt (f m a) x = g (cnt m x) (if x = a then 1 else 0))
    (m : Map CKey Nat) (ni : NI) (l : List Nat) (hn : l.Nodup) (x : CKey) :
    cnt (l.foldl (fun m n => f m (ni, n)) m) x = g (cnt m x) (if x.1 = ni ∧ x.2 ∈ l then 1 else 0) := by
  induction l generalizing m with
  | nil => rw [if_neg (fun h => nomatch h.2), hg]; rfl
  | cons n t ih =>
    have hn' := List.nodup_cons.mp hn
    rw [List.foldl_cons, ih _ hn'.2, hf]
    by_cases hx : x = (ni, n)
    · subst hx
      rw [if_pos rfl, if_neg fun h => hn'.1 h.2, hg, if_pos ⟨rfl, List.mem_cons_self⟩]
    · have : (x.1 = ni ∧ x.2 ∈ n :: t) ↔ (x.1 = ni ∧ x.2 ∈ t) :=
        and_congr_right fun h1 => List.mem_cons.trans (or_iff_right fun h2 => hx (Prod.ext h1 h2))
      rw [if_neg hx, hg]
      simp only [this]

theorem cnt_incL (m : Map CKey Nat) (ni : NI) (l : List Nat) (hn : l.Nodup) (x : CKey) :
    cnt (incL m ni l) x = cnt m x + (if x.1 = ni ∧ x.2 ∈ l then 1 else 0) :=
  cnt_foldl inc (· + ·) (fun _ => rfl) cnt_inc m ni l hn x

theorem cnt_decL (m : Map CKey Nat) (ni : NI) (l : List Nat) (hn : l.Nodup) (x : CKey) :
    cnt (decL m ni l) x = cnt m x - (if x.1 = ni ∧ x.2 ∈ l then 1 else 0) :=
  cnt_foldl dec (· - ·) (fun _ => rfl) cnt_dec m ni l hn x

theorem mem_dedup (l : List Nat) (n : Nat) : n ∈ dedup l ↔ n ∈ l := by
  fun_induction dedup l with
  | case1 => rfl
  | case2 a t h ih => exact ih.trans ⟨.tail a, fun h' => (List.mem_cons.mp h').elim (· ▸ List.contains_iff_mem.mp h) id⟩
  | case3 a t h ih => rw [List.mem_cons, List.mem_cons, ih]

theorem nodup_dedup (l : List Nat) : (dedup l).Nodup := by
  fun_induction dedup l with
  | case1 => exact .nil
  | case2 a t h ih => exact ih
  | case3 a t h ih => exact List.nodup_cons.mpr ⟨fun h' => h (List.contains_iff_mem.mpr ((mem_dedup t a).mp h')), ih⟩

end Gribi.Rib
