/-
The reference-counter invariant of the RIB model, `Rib.Inv`: every counter equals the number of
installed referrers; it is kept by `prog`, `remove` and `flush` (by every step: `C03.inv_step`).
`Inv.wf`, the instances of the installed entries exist, is part of it because `incG` / `decG`
count nothing for an instance that is not there.
-/
import Gribi.Lemmas.Counters
import Gribi.Lemmas.Classify
namespace Gribi.Rib

/-- `e` is a top-level entry pointing at group `(ni, g)` -/
def qNhg (ni : NI) (g : Nat) (e : EKey × Payload) : Bool :=
  e.1.2.isTop && (tgtNI e.1.1 e.2 == ni && e.2.grp == g)

def isNhgKey : Key → Bool
  | .nhg _ => true
  | _ => false

/-- `e` is a group of instance `ni` containing next-hop `n` -/
def qNh (ni : NI) (n : Nat) (e : EKey × Payload) : Bool :=
  isNhgKey e.1.2 && (e.1.1 == ni && e.2.nhs.contains n)

def nhgReferrers (ents : Map EKey Payload) (ni : NI) (g : Nat) : Nat := ents.countP (qNhg ni g)
def nhReferrers (ents : Map EKey Payload) (ni : NI) (n : Nat) : Nat := ents.countP (qNh ni n)

structure Inv (s : Rib) : Prop where
  nodup : Map.NoDupKeys s.ents
  wf : ∀ k p, s.ents.get? k = some p → s.hasNI k.1 = true ∧ (k.2.isTop = true → s.hasNI (tgtNI k.1 p) = true)
  nhg : ∀ ni g, cnt s.nhgRef (ni, g) = nhgReferrers s.ents ni g
  nh : ∀ ni n, cnt s.nhRef (ni, n) = nhReferrers s.ents ni n

theorem inv_new (d : NI) (f : Bool) : Inv (Rib.new d f) :=
  ⟨Map.nodup_nil, fun _ _ h => (nomatch h), fun _ _ => rfl, fun _ _ => rfl⟩

theorem qNhg_iff (x : CKey) (k : EKey) (p : Payload) :
    qNhg x.1 x.2 (k, p) = true ↔ (k.2.isTop = true ∧ x = (tgtNI k.1 p, p.grp)) := by
  unfold qNhg
  simp only [Bool.and_eq_true, beq_iff_eq]
  constructor
  · rintro ⟨h1, h2, h3⟩
    exact ⟨h1, Prod.ext h2.symm h3.symm⟩
  · rintro ⟨h1, h2⟩
    subst h2
    exact ⟨h1, rfl, rfl⟩

theorem qNh_iff (x : CKey) (k : EKey) (p : Payload) :
    qNh x.1 x.2 (k, p) = true ↔ (isNhgKey k.2 = true ∧ x.1 = k.1 ∧ x.2 ∈ p.nhs) := by
  unfold qNh
  simp only [Bool.and_eq_true, beq_iff_eq, List.contains_iff_mem]
  constructor
  · rintro ⟨h1, h2, h3⟩; exact ⟨h1, h2.symm, h3⟩
  · rintro ⟨h1, h2, h3⟩; exact ⟨h1, h2.symm, h3⟩

theorem reref_top {key : Key} (h : key.isTop = true) (s : Rib) (ni : NI) (old : Option Payload) (new : Payload) :
    reref s ni key old new =
      (match old with
       | none => incG s ni new
       | some o => if o.grpNI = new.grpNI ∧ o.grp = new.grp then s else incG (decG s ni o) ni new) := by
  cases key with
  | nh _ | nhg _ => cases h
  | _ => rfl

theorem unref_top {key : Key} (h : key.isTop = true) (s : Rib) (ni : NI) (p : Payload) :
    unref s ni key p = decG s ni p := by
  cases key with
  | nh _ | nhg _ => cases h
  | _ => rfl

theorem cnt_incG (s : Rib) (ni : NI) (p : Payload) (h : s.hasNI (tgtNI ni p) = true) (x : CKey) :
    cnt (incG s ni p).nhgRef x = cnt s.nhgRef x + (if x = (tgtNI ni p, p.grp) then 1 else 0) := by
  rw [incG, if_pos h]
  exact cnt_inc _ _ _

theorem cnt_decG (s : Rib) (ni : NI) (p : Payload) (h : s.hasNI (tgtNI ni p) = true) (x : CKey) :
    cnt (decG s ni p).nhgRef x = cnt s.nhgRef x - (if x = (tgtNI ni p, p.grp) then 1 else 0) := by
  rw [decG, if_pos h]
  exact cnt_dec _ _ _

@[simp] theorem decG_hasNI (s : Rib) (ni : NI) (p : Payload) (n : NI) : (decG s ni p).hasNI n = s.hasNI n :=
  (decG_frame s ni p).hasNI rfl n
@[simp] theorem incG_hasNI (s : Rib) (ni : NI) (p : Payload) (n : NI) : (incG s ni p).hasNI n = s.hasNI n :=
  (incG_frame s ni p).hasNI rfl n

@[simp] theorem reref_hasNI (s : Rib) (ni : NI) (k : Key) (o : Option Payload) (p : Payload) (n : NI) :
    (reref s ni k o p).hasNI n = s.hasNI n := (reref_frame s ni k o p).hasNI rfl n

theorem reref_nhRef_nonnhg {key : Key} (h : isNhgKey key = false) (s : Rib) (ni : NI) (old : Option Payload)
    (new : Payload) : (reref s ni key old new).nhRef = s.nhRef := by
  cases key with
  | nh _ => rfl
  | nhg _ => cases h
  | _ =>
    rw [reref_top rfl]
    cases old with
    | none => exact incG_nhRef ..
    | some o =>
      dsimp only
      split
      · rfl
      · exact (incG_nhRef ..).trans (decG_nhRef ..)

theorem reref_nhgRef_nontop {key : Key} (h : key.isTop = false) (s : Rib) (ni : NI) (old : Option Payload) (new : Payload) :
    (reref s ni key old new).nhgRef = s.nhgRef := by
  cases key with
  | nh _ | nhg _ => rfl
  | _ => cases h

theorem qNhg_top {key : Key} (hTop : key.isTop = true) (x : CKey) (kni : NI) (p : Payload) :
    qNhg x.1 x.2 ((kni, key), p) = decide (x = (tgtNI kni p, p.grp)) :=
  Bool.eq_iff_iff.mpr (((qNhg_iff x (kni, key) p).trans (and_iff_right hTop)).trans decide_eq_true_iff.symm)

theorem qNhg_nontop {key : Key} (hTop : key.isTop = false) (ni : NI) (g : Nat) (kni : NI) (p : Payload) :
    qNhg ni g ((kni, key), p) = false := by
  rw [qNhg, hTop]; rfl

theorem qNh_nhg (x : CKey) (kni : NI) (g : Nat) (p : Payload) :
    qNh x.1 x.2 ((kni, Key.nhg g), p) = decide (x.1 = kni ∧ x.2 ∈ p.nhs) :=
  Bool.eq_iff_iff.mpr (((qNh_iff x (kni, .nhg g) p).trans (and_iff_right rfl)).trans decide_eq_true_iff.symm)

theorem qNh_nonnhg {key : Key} (h : isNhgKey key = false) (ni : NI) (n : Nat) (kni : NI) (p : Payload) :
    qNh ni n ((kni, key), p) = false := by
  rw [qNh, h]; rfl

theorem hit_le {ents : Map EKey Payload} (q : EKey × Payload → Bool) (k : EKey) :
    Map.hit q k (ents.get? k) ≤ ents.countP q := by
  cases h : ents.get? k with
  | none => exact Nat.zero_le _
  | some o =>
    rw [Map.hit_some]
    split
    · exact Map.countP_pos_of_get? h q ‹_›
    · exact Nat.zero_le _

/-- a counter that the install of `k` does not touch, in the shape of `Map.countP_insert` -/
theorem cnt_untouched {q : EKey × Payload → Bool} {k : EKey} (hq : ∀ p, q (k, p) = false) (c : Nat)
    (old : Option Payload) (new : Payload) : c = (if q (k, new) then 1 else 0) + (c - Map.hit q k old) := by
  have : Map.hit q k old = 0 := by cases old <;> simp [hq]
  rw [hq, this]
  exact (Nat.zero_add _).symm

/-- in the shape of `Map.countP_insert`; `hle`: the subtraction is truncated, so the counter has to cover
what the replaced entry gives back -/
theorem cnt_reref_nhg (s : Rib) (ni : NI) (key : Key) (old : Option Payload) (new : Payload) (x : CKey)
    (hn : key.isTop = true → s.hasNI (tgtNI ni new) = true)
    (ho : ∀ o, old = some o → key.isTop = true → s.hasNI (tgtNI ni o) = true)
    (hle : Map.hit (qNhg x.1 x.2) (ni, key) old ≤ cnt s.nhgRef x) :
    cnt (reref s ni key old new).nhgRef x =
      (if qNhg x.1 x.2 ((ni, key), new) then 1 else 0) +
        (cnt s.nhgRef x - Map.hit (qNhg x.1 x.2) (ni, key) old) := by
  cases hT : key.isTop
  · rw [reref_nhgRef_nontop hT]; exact cnt_untouched (fun p => qNhg_nontop hT _ _ ni p) ..
  · rw [reref_top hT, qNhg_top hT]
    cases old with
    | none => rw [cnt_incG _ _ _ (hn hT)]; simp only [decide_eq_true_eq]; exact Nat.add_comm ..
    | some o =>
      simp only [Map.hit_some, qNhg_top hT, decide_eq_true_eq] at hle ⊢
      split
      · -- same group: nothing is touched, and the old entry already counted
        rename_i h
        rw [show (tgtNI ni new, new.grp) = (tgtNI ni o, o.grp) by rw [tgtNI, tgtNI, h.1, h.2]]
        exact (Nat.add_sub_of_le hle).symm
      · rw [cnt_incG _ _ _ ((decG_hasNI ..).trans (hn hT)), cnt_decG _ _ _ (ho o rfl hT)]
        exact Nat.add_comm ..

theorem cnt_reref_nh (s : Rib) (ni : NI) (key : Key) (old : Option Payload) (new : Payload) (x : CKey)
    (hle : Map.hit (qNh x.1 x.2) (ni, key) old ≤ cnt s.nhRef x) :
    cnt (reref s ni key old new).nhRef x =
      (if qNh x.1 x.2 ((ni, key), new) then 1 else 0) +
        (cnt s.nhRef x - Map.hit (qNh x.1 x.2) (ni, key) old) := by
  cases hk : isNhgKey key
  · rw [reref_nhRef_nonnhg hk]; exact cnt_untouched (fun p => qNh_nonnhg hk _ _ ni p) ..
  · obtain ⟨g, rfl⟩ : ∃ g, key = .nhg g := by cases key <;> first | exact ⟨_, rfl⟩ | cases hk
    rw [qNh_nhg]
    cases old with
    | none =>
      show cnt (incL s.nhRef ni (dedup new.nhs)) x = _
      rw [cnt_incL _ _ _ (nodup_dedup _)]
      simp only [mem_dedup, decide_eq_true_eq]
      exact Nat.add_comm ..
    | some o =>
      show cnt (decL (incL s.nhRef ni (dedup new.nhs)) ni (dedup o.nhs)) x = _
      rw [cnt_decL _ _ _ (nodup_dedup _), cnt_incL _ _ _ (nodup_dedup _), Nat.add_comm]
      simp only [Map.hit_some, qNh_nhg, mem_dedup, decide_eq_true_eq] at hle ⊢
      exact Nat.add_sub_assoc hle _

theorem inv_prog {s : Rib} {op : Op} (hi : Inv s) (hc : classify s op = .ok)
    (hni : s.hasNI op.ni = true) (id : Nat) : Inv (prog s op id).1 := by
  have htgt := fun hT => (classify_ok_iff.mp hc).1.tgt hT hni
  have hN : ∀ n, (prog s op id).1.hasNI n = s.hasNI n := (prog_frame s op id).hasNI rfl
  refine ⟨?_, fun k p hg => ?_, fun ni g => ?_, fun ni n => ?_⟩
  · rw [prog_ents]; exact Map.nodup_insert hi.nodup _ _
  · rw [hN, hN]
    rcases Map.get?_insert_some (prog_ents .. ▸ hg) with ⟨rfl, rfl⟩ | ⟨_, hg⟩
    · exact ⟨hni, htgt⟩
    · exact hi.wf k p hg
  · have h := hi.nhg ni g
    rw [nhgReferrers] at h ⊢
    rw [prog_ents, Map.countP_insert hi.nodup, ← h]
    exact cnt_reref_nhg _ _ _ _ _ (ni, g) htgt (fun o ho hT => (hi.wf _ o ho).2 hT) (h ▸ hit_le ..)
  · have h := hi.nh ni n
    rw [nhReferrers] at h ⊢
    rw [prog_ents, Map.countP_insert hi.nodup, ← h]
    exact cnt_reref_nh _ _ _ _ _ (ni, n) (h ▸ hit_le ..)

theorem cnt_unref_nhg (s : Rib) (ni : NI) (key : Key) (p : Payload) (x : CKey) :
    cnt (unref s ni key p).nhgRef x = cnt s.nhgRef x -
      (if (key.isTop && s.hasNI (tgtNI ni p) && decide ((tgtNI ni p, p.grp) = x)) = true then 1 else 0) := by
  cases hT : key.isTop
  · cases key with
    | nh _ | nhg _ => rfl
    | _ => cases hT
  · rw [unref_top hT, decG]
    cases s.hasNI (tgtNI ni p)
    · rfl
    · exact (cnt_dec ..).trans (by simp only [Bool.true_and, decide_eq_true_eq, eq_comm (a := x)])

/-- for an entry as `Inv.wf` has them the test of `cnt_unref_nhg` is the referrer test -/
theorem qNhg_of_wf {s : Rib} {ni : NI} {key : Key} {p : Payload}
    (h : key.isTop = true → s.hasNI (tgtNI ni p) = true) (x : CKey) :
    (key.isTop && s.hasNI (tgtNI ni p) && decide ((tgtNI ni p, p.grp) = x)) = qNhg x.1 x.2 ((ni, key), p) := by
  cases hT : key.isTop
  · rw [qNhg_nontop hT]; rfl
  · rw [qNhg_top hT, h hT]; exact decide_eq_decide.mpr eq_comm

theorem cnt_unref_nh (s : Rib) (ni : NI) (key : Key) (p : Payload) (x : CKey) :
    cnt (unref s ni key p).nhRef x = cnt s.nhRef x - (if qNh x.1 x.2 ((ni, key), p) then 1 else 0) := by
  cases key with
  | nhg g =>
    rw [qNh_nhg x]
    exact (cnt_decL _ _ _ (nodup_dedup _) x).trans (by simp only [mem_dedup, decide_eq_true_eq])
  | nh i => rw [qNh_nonnhg rfl]; rfl
  | _ => rw [unref_top rfl, decG_nhRef, qNh_nonnhg rfl]; rfl

@[simp] theorem unref_hasNI (s : Rib) (ni : NI) (k : Key) (p : Payload) (n : NI) :
    (unref s ni k p).hasNI n = s.hasNI n := (unref_frame s ni k p).hasNI rfl n

theorem inv_remove {s : Rib} (hi : Inv s) {k : EKey} {p : Payload} (hg : s.ents.get? k = some p) :
    Inv (remove s k p) := by
  have hw := hi.wf k p hg
  have hN : ∀ n, (remove s k p).hasNI n = s.hasNI n := (remove_frame s k p).hasNI rfl
  refine ⟨?_, fun k' p' hg' => ?_, fun ni g => ?_, fun ni n => ?_⟩
  · rw [remove_ents]; exact Map.nodup_erase hi.nodup k
  · rw [remove_ents] at hg'
    simpa only [hN] using hi.wf k' p' (Map.get?_erase_some hg').2
  · show cnt (unref s k.1 k.2 p).nhgRef (ni, g) = _
    rw [cnt_unref_nhg, qNhg_of_wf hw.2, hi.nhg ni g, nhgReferrers, nhgReferrers, remove_ents,
      Map.countP_erase hi.nodup, hg]
    rfl
  · show cnt (unref s k.1 k.2 p).nhRef (ni, n) = _
    rw [cnt_unref_nh, hi.nh ni n, nhReferrers, nhReferrers, remove_ents, Map.countP_erase hi.nodup, hg]
    rfl

theorem cnt_foldl_unref_nhg (ni : NI) (x : CKey) : ∀ (l : List (EKey × Payload)) (s : Rib),
    cnt (l.foldl (fun s e => unref s ni e.1.2 e.2) s).nhgRef x = cnt s.nhgRef x -
      l.countP (fun e => e.1.2.isTop && s.hasNI (tgtNI ni e.2) && decide ((tgtNI ni e.2, e.2.grp) = x))
  | [], _ => rfl
  | e :: t, s => by
    rw [List.foldl_cons, cnt_foldl_unref_nhg ni x t, cnt_unref_nhg, List.countP_cons, Nat.sub_sub, Nat.add_comm]
    simp only [unref_hasNI]

theorem cnt_foldl_unref_nh (ni : NI) (x : CKey) : ∀ (l : List (EKey × Payload)) (s : Rib),
    cnt (l.foldl (fun s e => unref s ni e.1.2 e.2) s).nhRef x = cnt s.nhRef x -
      l.countP (fun e => qNh x.1 x.2 ((ni, e.1.2), e.2))
  | [], _ => rfl
  | e :: t, s => by
    rw [List.foldl_cons, cnt_foldl_unref_nh ni x t, cnt_unref_nh, List.countP_cons, Nat.sub_sub, Nat.add_comm]

theorem inv_flushNI {s : Rib} (hi : Inv s) (ni : NI) : Inv (flushNI s ni).1 := by
  have hN : ∀ n, (flushNI s ni).1.hasNI n = s.hasNI n := (flushNI_frame s ni).hasNI rfl
  -- on the flushed entries, which are of `ni` and as `Inv.wf` has them, the tests above are the referrer tests
  have hl : ∀ e ∈ s.entsOf ni, ∀ x : CKey,
      (e.1.2.isTop && s.hasNI (tgtNI ni e.2) && decide ((tgtNI ni e.2, e.2.grp) = x)) = qNhg x.1 x.2 e ∧
        qNh x.1 x.2 ((ni, e.1.2), e.2) = qNh x.1 x.2 e := by
    intro e he x
    have hm := List.mem_filter.mp he
    obtain rfl : e.1.1 = ni := beq_iff_eq.mp hm.2
    exact ⟨qNhg_of_wf (hi.wf e.1 e.2 (Map.get?_of_mem_nodup hi.nodup hm.1)).2 x, rfl⟩
  refine ⟨?_, fun k p hg => ?_, fun n g => ?_, fun n i => ?_⟩
  · rw [flushNI_ents]; exact Map.nodup_eraseP hi.nodup _
  · rw [flushNI_ents, Map.get?_eraseP] at hg
    split at hg
    · cases hg
    · simpa only [hN] using hi.wf k p hg
  · show cnt (List.foldl _ s (s.entsOf ni)).nhgRef (n, g) = _
    rw [cnt_foldl_unref_nhg, List.countP_congr fun e he => by rw [(hl e he (n, g)).1],
      hi.nhg, nhgReferrers, nhgReferrers, flushNI_ents, Map.countP_eraseP]
    rfl
  · show cnt (List.foldl _ s (s.entsOf ni)).nhRef (n, i) = _
    rw [cnt_foldl_unref_nh, List.countP_congr fun e he => by rw [(hl e he (n, i)).2],
      hi.nh, nhReferrers, nhReferrers, flushNI_ents, Map.countP_eraseP]
    rfl

theorem inv_flush {s : Rib} (hi : Inv s) (nis : List NI) : Inv (flush s nis).1 := by
  induction nis generalizing s with
  | nil => exact hi
  | cons ni rest ih => exact ih (inv_flushNI hi ni)

theorem qNhg_iff_refs (ni : NI) (g : Nat) (k : EKey) (p : Payload) :
    qNhg ni g (k, p) = true ↔ (ni, Key.nhg g) ∈ refs k p := by
  rw [qNhg_iff (ni, g)]
  obtain ⟨kn, key⟩ := k
  cases key <;> simp [refs, Key.isTop]

theorem qNh_iff_refs (ni : NI) (i : Nat) (k : EKey) (p : Payload) :
    qNh ni i (k, p) = true ↔ (ni, Key.nh i) ∈ refs k p := by
  rw [qNh_iff (ni, i)]
  obtain ⟨kn, key⟩ := k
  cases key with
  | nhg g =>
    simp only [refs, isNhgKey, true_and, List.mem_map, Prod.mk.injEq, Key.nh.injEq]
    exact ⟨fun ⟨a, b⟩ => ⟨i, b, a.symm, rfl⟩, fun ⟨_, b, a, c⟩ => ⟨a.symm, c ▸ b⟩⟩
  | _ => simp [refs, isNhgKey]

/-- with `classifyDel_spec`: what an installed entry refers to cannot be deleted, what none refers to can -/
theorem Inv.guard_pos_iff {s : Rib} (hi : Inv s) (t : EKey) :
    0 < guardCnt s t.1 t.2 ↔ ∃ k p, s.ents.get? k = some p ∧ t ∈ refs k p := by
  obtain ⟨ni, key⟩ := t
  cases key with
  | nhg g =>
    show 0 < cnt s.nhgRef (ni, g) ↔ _
    rw [hi.nhg, nhgReferrers, Map.countP_pos_iff hi.nodup]
    exact exists_congr fun k => exists_congr fun p => and_congr_right fun _ => qNhg_iff_refs ni g k p
  | nh i =>
    show 0 < cnt s.nhRef (ni, i) ↔ _
    rw [hi.nh, nhReferrers, Map.countP_pos_iff hi.nodup]
    exact exists_congr fun k => exists_congr fun p => and_congr_right fun _ => qNh_iff_refs ni i k p
  | _ => exact ⟨fun h => absurd h (Nat.lt_irrefl 0), fun ⟨_, _, _, h⟩ => nomatch isTop_of_mem_refs h⟩

theorem Inv.guard_pos {s : Rib} (hi : Inv s) {k : EKey} {p : Payload} (hg : s.ents.get? k = some p) {t : EKey}
    (ht : t ∈ refs k p) : 0 < guardCnt s t.1 t.2 := (hi.guard_pos_iff t).mpr ⟨k, p, hg, ht⟩

theorem Inv.guard_zero {s : Rib} (hi : Inv s) {t : EKey}
    (hun : ∀ k p, s.ents.get? k = some p → t ∉ refs k p) : guardCnt s t.1 t.2 = 0 :=
  Nat.eq_zero_of_not_pos fun h => let ⟨k, p, h1, h2⟩ := (hi.guard_pos_iff t).mp h; hun k p h1 h2

end Gribi.Rib
