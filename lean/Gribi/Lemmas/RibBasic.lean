/-
Which fields the helpers of the RIB model touch. The counter maintenance changes the two counter
maps and nothing else: `CountersOnly s t`. What programming an operation (`prog`), removing an
entry (`remove`) or flushing changes besides is said in the same terms,
`CountersOnly { s with ents := … } t`: the other fields are read off by the projections (those
of `{ s with … }` reduce by definition).
-/
import Gribi.Model.Rib
import Gribi.Spec.RibSpec
namespace Gribi
open Rib

namespace Rib

/-- `t` is `s` with other reference counters -/
structure CountersOnly (s t : Rib) : Prop where
  dflt : t.dflt = s.dflt
  nis : t.nis = s.nis
  fwd : t.fwd = s.fwd
  hook : t.hook = s.hook
  ents : t.ents = s.ents
  pend : t.pend = s.pend

/-- what every operation of the RIB keeps (`Step.grows`) -/
structure Grows (s t : Rib) : Prop where
  fwd : t.fwd = s.fwd
  hook : s.hook = true → t.hook = true
  hasNI : ∀ {n}, s.hasNI n = true → t.hasNI n = true

namespace CountersOnly

theorem refl (s : Rib) : CountersOnly s s := ⟨rfl, rfl, rfl, rfl, rfl, rfl⟩

theorem trans {s t u : Rib} (h : CountersOnly s t) (h' : CountersOnly t u) : CountersOnly s u :=
  ⟨h'.dflt.trans h.dflt, h'.nis.trans h.nis, h'.fwd.trans h.fwd, h'.hook.trans h.hook, h'.ents.trans h.ents,
    h'.pend.trans h.pend⟩

/-- where `b` is `{ s with ents := …, pend := … }`, `hn` is `rfl` -/
theorem hasNI {b s t : Rib} (h : CountersOnly b t) (hn : b.nis = s.nis) (n : NI) : t.hasNI n = s.hasNI n :=
  congrArg (·.contains n) (h.nis.trans hn)

theorem grows {b s t : Rib} (h : CountersOnly b t) (hf : b.fwd = s.fwd) (hh : b.hook = s.hook) (hn : b.nis = s.nis) :
    Grows s t :=
  ⟨h.fwd.trans hf, (h.hook.trans hh).trans, (h.hasNI hn _).trans⟩

theorem update {s t : Rib} (h : CountersOnly s t) (f : Map EKey Payload → Map EKey Payload)
    (g : Map Nat Op → Map Nat Op) :
    CountersOnly { s with ents := f s.ents, pend := g s.pend } { t with ents := f t.ents, pend := g t.pend } :=
  ⟨h.dflt, h.nis, h.fwd, h.hook, congrArg f h.ents, congrArg g h.pend⟩

end CountersOnly

theorem decG_frame (s : Rib) (ni : NI) (p : Payload) : CountersOnly s (decG s ni p) := by
  unfold decG; split <;> constructor <;> rfl

theorem incG_frame (s : Rib) (ni : NI) (p : Payload) : CountersOnly s (incG s ni p) := by
  unfold incG; split <;> constructor <;> rfl

theorem decG_nhRef (s : Rib) (ni : NI) (p : Payload) : (decG s ni p).nhRef = s.nhRef := by
  unfold decG; split <;> rfl

theorem incG_nhRef (s : Rib) (ni : NI) (p : Payload) : (incG s ni p).nhRef = s.nhRef := by
  unfold incG; split <;> rfl

theorem unref_frame (s : Rib) (ni : NI) (k : Key) (p : Payload) : CountersOnly s (unref s ni k p) := by
  unfold unref
  split
  · exact .refl s
  · constructor <;> rfl
  · exact decG_frame s ni p

theorem reref_frame (s : Rib) (ni : NI) (k : Key) (o : Option Payload) (p : Payload) :
    CountersOnly s (reref s ni k o p) := by
  unfold reref
  split
  · exact .refl s
  · constructor <;> rfl
  · split
    · exact incG_frame s ni p
    · split
      · exact .refl s
      · exact (decG_frame ..).trans (incG_frame ..)

@[simp] theorem reref_dflt (s : Rib) (ni : NI) (k : Key) (o : Option Payload) (p : Payload) :
    (reref s ni k o p).dflt = s.dflt := (reref_frame s ni k o p).dflt

theorem install_frame (s : Rib) (op : Op) :
    CountersOnly { s with ents := s.ents.insert (op.ni, op.key) op.pl } (install s op).1 :=
  reref_frame ..

/-- programming `op` (submitted, or held under `id`): what both `add` and `fire` do on `.ok` -/
def prog (s : Rib) (op : Op) (id : Nat) : Rib × Out :=
  ({ (install s op).1 with pend := (install s op).1.pend.erase id },
   { oks := [op], hooks := (install s op).2,
     resolved := if op.key.isTop then [(true, op.ni, op.key)] else [] })

/-- giving up on the operation held (or submitted) under `id`: what `add` does on `.err`, `fire` on `.fail` -/
def drop (s : Rib) (id : Nat) : Rib × Out := ({ s with pend := s.pend.erase id }, { fails := [id] })

theorem prog_frame (s : Rib) (op : Op) (id : Nat) :
    CountersOnly { s with ents := s.ents.insert (op.ni, op.key) op.pl, pend := s.pend.erase id } (prog s op id).1 :=
  (install_frame s op).update (·) (·.erase id)

@[simp] theorem prog_ents (s : Rib) (op : Op) (id : Nat) :
    (prog s op id).1.ents = s.ents.insert (op.ni, op.key) op.pl := (prog_frame s op id).ents
@[simp] theorem prog_pend (s : Rib) (op : Op) (id : Nat) : (prog s op id).1.pend = s.pend.erase id :=
  (prog_frame s op id).pend
@[simp] theorem prog_nis (s : Rib) (op : Op) (id : Nat) : (prog s op id).1.nis = s.nis := (prog_frame s op id).nis

/-- what `del` does to the state on `.ok`, `p` being the installed payload of `k` -/
def remove (s : Rib) (k : EKey) (p : Payload) : Rib :=
  { unref s k.1 k.2 p with ents := (unref s k.1 k.2 p).ents.erase k }

theorem remove_frame (s : Rib) (k : EKey) (p : Payload) :
    CountersOnly { s with ents := s.ents.erase k } (remove s k p) :=
  (unref_frame s k.1 k.2 p).update (·.erase k) (·)

@[simp] theorem remove_ents (s : Rib) (k : EKey) (p : Payload) : (remove s k p).ents = s.ents.erase k :=
  (remove_frame s k p).ents

theorem foldl_unref_frame (ni : NI) (l : List (EKey × Payload)) (s : Rib) :
    CountersOnly s (l.foldl (fun s e => unref s ni e.1.2 e.2) s) := by
  induction l generalizing s with
  | nil => exact .refl s
  | cons e t ih => exact (unref_frame ..).trans (ih _)

theorem flushNI_frame (s : Rib) (ni : NI) :
    CountersOnly { s with ents := s.ents.eraseP (fun k => k.1 == ni) } (flushNI s ni).1 :=
  (foldl_unref_frame ni (s.entsOf ni) s).update (Map.eraseP · fun k => k.1 == ni) id

@[simp] theorem flushNI_ents (s : Rib) (ni : NI) : (flushNI s ni).1.ents = s.ents.eraseP (fun k => k.1 == ni) :=
  (flushNI_frame s ni).ents
@[simp] theorem flushNI_hook (s : Rib) (ni : NI) : (flushNI s ni).1.hook = s.hook := (flushNI_frame s ni).hook

theorem addNI_eq (s : Rib) (ni : NI) : (addNI s ni).1 = { s with nis := (addNI s ni).1.nis } := by
  unfold addNI; split <;> rfl

@[simp] theorem addNI_ents (s : Rib) (ni : NI) : (addNI s ni).1.ents = s.ents := (congrArg Rib.ents (addNI_eq s ni) :)
@[simp] theorem addNI_pend (s : Rib) (ni : NI) : (addNI s ni).1.pend = s.pend := (congrArg Rib.pend (addNI_eq s ni) :)
theorem addNI_hasNI {s : Rib} {n : NI} (h : s.hasNI n = true) (ni : NI) : (addNI s ni).1.hasNI n = true := by
  unfold addNI; split
  · exact h
  · show (s.nis ++ [ni]).contains n = true
    rw [List.contains_append, show s.nis.contains n = true from h]
    rfl

end Rib

def MapEquiv {α β : Type} [DecidableEq α] (a b : Map α β) : Prop := ∀ k, a.get? k = b.get? k

infix:50 " ≃ₘ " => MapEquiv

namespace MapEquiv
variable {α β : Type} [DecidableEq α]
theorem refl (a : Map α β) : a ≃ₘ a := fun _ => rfl
theorem symm {a b : Map α β} (h : a ≃ₘ b) : b ≃ₘ a := fun k => (h k).symm
theorem trans {a b c : Map α β} (h1 : a ≃ₘ b) (h2 : b ≃ₘ c) : a ≃ₘ c := fun k => (h1 k).trans (h2 k)
theorem insert {a b : Map α β} (h : a ≃ₘ b) (k : α) (v : β) : a.insert k v ≃ₘ b.insert k v := by
  intro k'; simp [Map.get?_insert, h k']
theorem erase {a b : Map α β} (h : a ≃ₘ b) (k : α) : a.erase k ≃ₘ b.erase k := by
  intro k'; simp [Map.get?_erase, h k']
theorem eraseP {a b : Map α β} (h : a ≃ₘ b) (p : α → Bool) : a.eraseP p ≃ₘ b.eraseP p := by
  intro k'; simp [Map.get?_eraseP, h k']
end MapEquiv

end Gribi
