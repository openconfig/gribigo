/-
What one call of the RIB model does, as relations to do `cases` / `induction` on: the accepted
cascades, the outcomes of `add` and `del`, the accepted steps, each with the proof that the
function's results are among them. Proofs about histories go through these and do not unfold
`fire`, `runCascade`, `add`, `del`, `step` or `run`.
-/
import Gribi.Lemmas.Classify
namespace Gribi.Rib

variable {s s' : Rib} {op x : Op} {o : Out} {id : Nat} {script : List CEv} {i : In} {p : Payload}

@[simp] theorem Out.append_nil (o : Out) : o.append {} = o := by simp [Out.append]

/-- the accepted cascades, the script forgotten -/
inductive Cascade : Rib → Rib → Out → Prop
  | done (s : Rib) : Cascade s s {}
  | ok {s s' : Rib} {o : Out} {id : Nat} {op : Op} : s.pend.get? id = some op → classify s op = .ok →
      Cascade (prog s op id).1 s' o → Cascade s s' ((prog s op id).2.append o)
  | fail {s s' : Rib} {o : Out} {id : Nat} {op : Op} : s.pend.get? id = some op → classify s op = .err →
      Cascade (drop s id).1 s' o → Cascade s s' ((drop s id).2.append o)

theorem fire_ok (hg : s.pend.get? id = some op) (hc : classify s op = .ok) :
    fire s (.ok id) = some (prog s op id) := by
  simp [fire, hg, hc, prog]

theorem fire_fail (hg : s.pend.get? id = some op) (hc : classify s op = .err) :
    fire s (.fail id) = some (drop s id) := by
  simp [fire, hg, hc, drop]

theorem fire_some {ev : CEv} (h : fire s ev = some (s', o)) :
    ∃ id op, s.pend.get? id = some op ∧
      ((ev = .ok id ∧ classify s op = .ok ∧ (s', o) = prog s op id) ∨
       (ev = .fail id ∧ classify s op = .err ∧ (s', o) = drop s id)) := by
  revert h
  fun_cases fire s ev <;> intro h <;> cases h
  · rename_i hg hc _ _ hi
    exact ⟨_, _, hg, .inl ⟨rfl, hc, by rw [prog, hi]⟩⟩
  · rename_i hg hc
    exact ⟨_, _, hg, .inr ⟨rfl, hc, rfl⟩⟩

theorem runCascade_cons {ev : CEv} {rest : List CEv} :
    runCascade s (ev :: rest) = some (s', o) ↔
      ∃ s1 o1 o2, fire s ev = some (s1, o1) ∧ runCascade s1 rest = some (s', o2) ∧ o = o1.append o2 := by
  simp only [runCascade]
  constructor
  · intro h
    split at h
    · cases h
    · rename_i s1 o1 h1
      split at h
      · cases h
      · rename_i s2 o2 h2; cases h; exact ⟨s1, o1, o2, h1, h2, rfl⟩
  · rintro ⟨s1, o1, o2, h1, h2, rfl⟩
    simp only [h1, h2]

theorem Cascade.of_run (h : runCascade s script = some (s', o)) :
    Cascade s s' o := by
  induction script generalizing s o with
  | nil => cases h; exact .done _
  | cons ev rest ih =>
    obtain ⟨s1, o1, o2, h1, h2, rfl⟩ := runCascade_cons.mp h
    obtain ⟨id, op, hg, ⟨_, hc, he⟩ | ⟨_, hc, he⟩⟩ := fire_some h1 <;> cases he
    · exact .ok hg hc (ih h2)
    · exact .fail hg hc (ih h2)

/-- `pend := s'.pend`: of the held operations this says nothing, `Cascade.held` does -/
theorem Cascade.frame (h : Cascade s s' o) :
    CountersOnly { s with ents := o.oks.foldl (fun m op => m.insert (op.ni, op.key) op.pl) s.ents, pend := s'.pend } s' := by
  induction h with
  | done s => exact .refl s
  | @ok s s' o id op _ _ _ ih => exact ((prog_frame s op id).update (o.oks.foldl _ ·) fun _ => s'.pend).trans ih
  | @fail s s' o id _ _ _ _ ih => exact ((CountersOnly.refl s).update (o.oks.foldl _ ·) fun _ => s'.pend).trans ih

theorem prog_append_hooks (s : Rib) (op : Op) (id : Nat) {o : Out}
    (h : o.hooks = if (prog s op id).1.hook then o.oks.map fun op => .add op.ni op.key op.pl else []) :
    ((prog s op id).2.append o).hooks =
      if s.hook then ((prog s op id).2.append o).oks.map fun op => .add op.ni op.key op.pl else [] := by
  show (if s.hook then [_] else []) ++ o.hooks = _
  rw [h, (prog_frame s op id).hook]
  cases s.hook <;> rfl

theorem Cascade.hooks (h : Cascade s s' o) :
    o.hooks = if s.hook then o.oks.map fun op => .add op.ni op.key op.pl else [] := by
  induction h with
  | done => exact (ite_self _).symm
  | ok _ _ _ ih => exact prog_append_hooks _ _ _ ih
  | fail _ _ _ ih => exact ih

theorem Cascade.held (h : Cascade s s' o) (hg : s'.pend.get? id = some x) : s.pend.get? id = some x := by
  induction h with
  | done => exact hg
  | ok _ _ _ ih => exact (Map.get?_erase_some (prog_pend .. ▸ ih hg)).2
  | fail _ _ _ ih => exact (Map.get?_erase_some (ih hg)).2

theorem Cascade.oks_held (h : Cascade s s' o) (hx : x ∈ o.oks) :
    ∃ id, s.pend.get? id = some x := by
  induction h with
  | done => cases hx
  | ok hg _ _ ih =>
    rcases List.mem_cons.mp hx with rfl | hx
    · exact ⟨_, hg⟩
    · exact (ih hx).imp fun _ hi => (Map.get?_erase_some (prog_pend .. ▸ hi)).2
  | fail _ _ _ ih => exact (ih hx).imp fun _ hi => (Map.get?_erase_some hi).2

/-- the call fails before it looks at the entry -/
abbrev fatal (s : Rib) (op : Op) : Prop := op.cls = .noEntry ∨ ¬ s.hasNI op.ni

theorem add_fatal (h : fatal s op) (script : List CEv) :
    add s op script = if script = [] then some (s, { fatal := true }) else none := by
  unfold add; rw [if_pos h]

theorem add_err (h : ¬ fatal s op) (hc : classify s op = .err) (script : List CEv) :
    add s op script = if script = [] then some (drop s op.id) else none := by
  unfold add; rw [if_neg h, hc]; rfl

theorem add_hold (h : ¬ fatal s op) (hc : classify s op = .hold) (script : List CEv) :
    add s op script = if script ≠ [] then none
      else if s.fwd then some ({ s with pend := s.pend.insert op.id op }, {}) else some (s, { fails := [op.id] }) := by
  unfold add; rw [if_neg h, hc]

theorem add_ok (h : ¬ fatal s op) (hc : classify s op = .ok) (script : List CEv) :
    add s op script = (runCascade (prog s op op.id).1 script).bind fun r =>
      if quiescent r.1 then some (r.1, (prog s op op.id).2.append r.2) else none := by
  unfold add; rw [if_neg h, hc]
  simp only [prog]
  cases runCascade _ script <;> rfl

inductive Added (s : Rib) (op : Op) : Rib → Out → Prop
  | fatal : Rib.fatal s op → Added s op s { fatal := true }
  | err : s.hasNI op.ni = true → classify s op = .err → Added s op (drop s op.id).1 (drop s op.id).2
  | held : s.hasNI op.ni = true → classify s op = .hold → s.fwd = true →
      Added s op { s with pend := s.pend.insert op.id op } {}
  | refused : s.hasNI op.ni = true → classify s op = .hold → s.fwd = false → Added s op s { fails := [op.id] }
  | ok {s' : Rib} {o : Out} : s.hasNI op.ni = true → classify s op = .ok → Cascade (prog s op op.id).1 s' o →
      quiescent s' = true → Added s op s' ((prog s op op.id).2.append o)

theorem Added.of_add (h : add s op script = some (s', o)) :
    Added s op s' o := by
  have hni : ¬ Rib.fatal s op → s.hasNI op.ni = true := fun h => Decidable.not_not.mp fun h' => h (.inr h')
  revert h
  fun_cases add s op script <;> intro h <;> cases h
  · exact .fatal ‹_›
  · exact .err (hni ‹_›) ‹_›
  · exact .held (hni ‹_›) ‹_› ‹_›
  · exact .refused (hni ‹_›) ‹_› (Bool.eq_false_iff.mpr ‹_›)
  · -- installed, and the script accepted down to a quiescent state
    rename_i hf hc s1 hk hi _ _ hr hq
    obtain rfl : s1 = (install s op).1 := (congrArg Prod.fst hi).symm
    obtain rfl : hk = (install s op).2 := (congrArg Prod.snd hi).symm
    exact .ok (hni hf) hc (.of_run hr) hq

theorem Added.frame (h : Added s op s' o) :
    CountersOnly { s with ents := o.oks.foldl (fun m op => m.insert (op.ni, op.key) op.pl) s.ents, pend := s'.pend } s' := by
  cases h with
  | @ok s' o _ _ hc _ => exact ((prog_frame s op op.id).update (o.oks.foldl _ ·) fun _ => s'.pend).trans hc.frame
  | _ => exact .refl _

theorem Added.hooks (h : Added s op s' o) :
    o.hooks = if s.hook then o.oks.map fun op => .add op.ni op.key op.pl else [] := by
  cases h with
  | ok _ _ hc _ => exact prog_append_hooks _ _ _ hc.hooks
  | _ => exact (ite_self _).symm

theorem Added.pend (h : Added s op s' o) (hg : s'.pend.get? id = some x) :
    s.pend.get? id = some x ∨
      (x = op ∧ id = op.id ∧ s.hasNI op.ni = true ∧ classify s op = .hold ∧ s.fwd = true) := by
  cases h with
  | fatal | refused => exact .inl hg
  | err => exact .inl (Map.get?_erase_some hg).2
  | held hni hc hf =>
    exact (Map.get?_insert_some hg).symm.imp (·.2) fun h => ⟨h.2.symm, h.1.symm, hni, hc, hf⟩
  | ok _ _ hc _ => exact .inl (Map.get?_erase_some (prog_pend s op _ ▸ hc.held hg)).2

theorem Added.oks (h : Added s op s' o) (hx : x ∈ o.oks) :
    x = op ∨ ∃ id, s.pend.get? id = some x := by
  cases h with
  | ok _ _ hc _ =>
    exact (List.mem_cons.mp hx).imp_right fun hx =>
      (hc.oks_held hx).imp fun _ hi => (Map.get?_erase_some (prog_pend s op _ ▸ hi)).2
  | _ => nomatch hx

inductive Deleted (s : Rib) (op : Op) : Rib → Out → Prop
  | fatal : Rib.fatal s op → Deleted s op s { fatal := true }
  | invalid : delValid op = false → Deleted s op s { fails := [op.id] }
  | absent : delValid op = true → s.ents.get? (op.ni, op.key) = none →
      Deleted s op s { oks := [op], hooks := if s.hook then [.del op.ni op.key none] else [] }
  | refd {p : Payload} : delValid op = true → s.ents.get? (op.ni, op.key) = some p → 0 < guardCnt s op.ni op.key →
      Deleted s op s { fails := [op.id] }
  | ok {p : Payload} : delValid op = true → s.ents.get? (op.ni, op.key) = some p → guardCnt s op.ni op.key = 0 →
      Deleted s op (remove s (op.ni, op.key) p)
        { oks := [op], hooks := if s.hook then [.del op.ni op.key (some p)] else [],
          resolved := if op.key.isTop then [(false, op.ni, op.key)] else [] }

theorem Deleted.of_del (s : Rib) (op : Op) : Deleted s op (del s op).1 (del s op).2 := by
  unfold del
  by_cases hf : Rib.fatal s op
  · rw [if_pos hf]; exact .fatal hf
  rw [if_neg hf, classifyDel_spec, Rib.has, Map.has]
  cases hv : delValid op
  · exact .invalid hv
  cases hg : s.ents.get? (op.ni, op.key) with
  | none => exact .absent hv hg
  | some p =>
    by_cases hc : guardCnt s op.ni op.key > 0
    · rw [if_neg nofun, if_neg nofun, if_pos hc]; exact .refd hv hg hc
    · rw [if_neg nofun, if_neg nofun, if_neg hc]; exact .ok hv hg (Nat.eq_zero_of_not_pos hc)

theorem del_ok (hf : ¬ fatal s op) (hc : classifyDel s op = .ok) (hg : s.ents.get? (op.ni, op.key) = some p) :
    del s op = (remove s (op.ni, op.key) p,
      { oks := [op], hooks := if s.hook then [.del op.ni op.key (some p)] else [],
        resolved := if op.key.isTop then [(false, op.ni, op.key)] else [] }) := by
  unfold del
  rw [if_neg hf, hc]
  simp only [hg]
  rfl

theorem Deleted.frame (h : Deleted s op s' o) :
    CountersOnly { s with ents := s'.ents } s' := by
  cases h with
  | @ok p _ _ _ =>
    have f := remove_frame s (op.ni, op.key) p
    exact ⟨f.dflt, f.nis, f.fwd, f.hook, rfl, f.pend⟩
  | _ => exact .refl _

theorem flush_cons (s : Rib) (ni : NI) (rest : List NI) :
    flush s (ni :: rest) = ((flush (flushNI s ni).1 rest).1, (flushNI s ni).2 ++ (flush (flushNI s ni).1 rest).2) := rfl

theorem flush_frame (s : Rib) (nis : List NI) :
    CountersOnly { s with ents := s.ents.eraseP fun k => nis.contains k.1 } (flush s nis).1 := by
  induction nis generalizing s with
  | nil => exact { CountersOnly.refl s with ents := (List.filter_eq_self.mpr fun _ _ => rfl).symm }
  | cons ni rest ih =>
    have h := ((flushNI_frame s ni).update (·.eraseP fun k => rest.contains k.1) (·)).trans (ih _)
    refine ⟨h.dflt, h.nis, h.fwd, h.hook, h.ents.trans ?_, h.pend⟩
    simp only [Map.eraseP, List.filter_filter]
    exact List.filter_congr fun e _ => by rw [Bool.and_comm, List.contains_cons, Bool.not_or]

theorem flush_ents (s : Rib) (nis : List NI) : (flush s nis).1.ents = s.ents.eraseP (fun k => nis.contains k.1) :=
  (flush_frame s nis).ents
theorem flush_pend (s : Rib) (nis : List NI) : (flush s nis).1.pend = s.pend := (flush_frame s nis).pend

inductive Step (s : Rib) : In → Rib → Out → Prop
  | add {op : Op} {script : List CEv} {s' : Rib} {o : Out} : Added s op s' o → Step s (.add op script) s' o
  | del {op : Op} {s' : Rib} {o : Out} : Deleted s op s' o → Step s (.del op) s' o
  | flush (nis : List NI) : Step s (.flush nis) (flush s nis).1 { hooks := (flush s nis).2 }
  | addNI (ni : NI) : Step s (.addNI ni) (addNI s ni).1 {}
  | setHook : Step s .setHook s.setHook {}

theorem eq_of_some_eq {α β : Type} {x : α × β} {a : α} {b : β} (h : some x = some (a, b)) : a = x.1 ∧ b = x.2 := by
  cases h; exact ⟨rfl, rfl⟩

theorem Step.of_step (h : step s i = some (s', o)) : Step s i s' o := by
  cases i with
  | add op script => exact .add (.of_add h)
  | del op => obtain ⟨rfl, rfl⟩ := eq_of_some_eq h; exact .del (.of_del s op)
  | flush nis => obtain ⟨rfl, rfl⟩ := eq_of_some_eq h; exact .flush nis
  | addNI ni => obtain ⟨rfl, rfl⟩ := eq_of_some_eq h; exact .addNI ni
  | setHook => obtain ⟨rfl, rfl⟩ := eq_of_some_eq h; exact .setHook

theorem Step.pend (h : Step s i s' o) (hg : s'.pend.get? id = some x) :
    s.pend.get? id = some x ∨
      ∃ script, i = .add x script ∧ id = x.id ∧ s.hasNI x.ni = true ∧ classify s x = .hold ∧ s.fwd = true := by
  cases h with
  | add ha => exact (ha.pend hg).imp_right fun ⟨e, h⟩ => by subst e; exact ⟨_, rfl, h⟩
  | del hd => exact .inl (hd.frame.pend ▸ hg)
  | flush nis => exact .inl (flush_pend s nis ▸ hg)
  | addNI ni => exact .inl (addNI_pend s ni ▸ hg)
  | setHook => exact .inl hg

theorem Step.grows (h : Step s i s' o) : Grows s s' := by
  cases h with
  | add ha => exact ha.frame.grows rfl rfl rfl
  | del hd => exact hd.frame.grows rfl rfl rfl
  | flush nis => exact (flush_frame s nis).grows rfl rfl rfl
  | addNI ni =>
    exact ⟨(congrArg Rib.fwd (addNI_eq s ni) :), (congrArg Rib.hook (addNI_eq s ni) :).trans, fun hn => addNI_hasNI hn ni⟩
  | setHook => exact ⟨rfl, fun _ => rfl, id⟩

theorem run_nil {outs : List Out} : run s [] = some (s', outs) ↔ s' = s ∧ outs = [] := by
  simp only [run, Option.some.injEq, Prod.mk.injEq]
  exact ⟨fun h => ⟨h.1.symm, h.2.symm⟩, fun h => ⟨h.1.symm, h.2.symm⟩⟩

theorem run_cons {rest : List In} {outs : List Out} :
    run s (i :: rest) = some (s', outs) ↔
      ∃ s1 o os, step s i = some (s1, o) ∧ run s1 rest = some (s', os) ∧ outs = o :: os := by
  simp only [run]
  constructor
  · intro h
    split at h
    · cases h
    · rename_i s1 o h1
      split at h
      · cases h
      · rename_i s2 os h2; cases h; exact ⟨s1, o, os, h1, h2, rfl⟩
  · rintro ⟨s1, o, os, h1, h2, rfl⟩
    simp only [h1, h2]

theorem run_invariant {P : Rib → Prop} (hstep : ∀ {s i s' o}, Step s i s' o → P s → P s')
    {s s' : Rib} {ins : List In} {outs : List Out} (h : run s ins = some (s', outs)) (hs : P s) : P s' := by
  induction ins generalizing s outs with
  | nil => obtain ⟨rfl, _⟩ := run_nil.mp h; exact hs
  | cons i rest ih =>
    obtain ⟨s1, o, os, h1, h2, _⟩ := run_cons.mp h
    exact ih h2 (hstep (.of_step h1) hs)

end Gribi.Rib
