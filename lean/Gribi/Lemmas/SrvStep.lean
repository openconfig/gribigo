/-
What one event does to the server, said once. `Recv` lists the four outcomes of a message,
`Step` the outcomes of an event; `recv_spec` / `step_spec` say that `Server.recv` / `Server.step`
produce nothing else. The frame theorems of C04, C05, C09 and the refinement of SrvRefine are case
analyses of these two relations. `Recv` does not say which outcome an input has (`rejected` carries
any status), so what needs the value of `recv` (C09's statuses, C19's equations between two runs)
computes it instead.
-/
import Gribi.Model.Server
namespace Gribi.Server

theorem finish_snd (c : Nat) (r : Server × MsgOut) : (finish c r).2 = r.2 := by
  unfold finish; split <;> rfl

theorem finish_fst (c : Nat) (r : Server × MsgOut) :
    (finish c r).1 = if r.2.term.isSome then r.1.drop c else r.1 := by
  unfold finish; split <;> simp [*]

theorem finish_rib (c : Nat) (r : Server × MsgOut) : (finish c r).1.rib = r.1.rib := by
  rw [finish_fst]; split <;> rfl

theorem finish_reg (c : Nat) (r : Server × MsgOut) :
    (finish c r).1.curElec = r.1.curElec ∧ (finish c r).1.curMaster = r.1.curMaster := by
  rw [finish_fst]; split <;> exact ⟨rfl, rfl⟩

theorem finish_sess_ne (c : Nat) (r : Server × MsgOut) {c' : Nat} (h : c' ≠ c) :
    (finish c r).1.sess.get? c' = r.1.sess.get? c' := by
  rw [finish_fst]; split
  · exact Map.get?_erase_ne _ (Ne.symm h)
  · rfl

/-- `i` is the RIB call `modifyEntry` makes for `op`: a DELETE goes to `DeleteEntry`, an ADD or
REPLACE to `AddEntry` -/
def Dispatch (op : Op) (script : List Rib.CEv) (i : Rib.In) : Prop :=
  (i = .del op ∧ op.ty = .delete ∧ script = []) ∨ (i = .add op script ∧ (op.ty = .add ∨ op.ty = .replace))

theorem add_or_replace {t : OpType} (h1 : t ≠ .invalid) (h2 : t ≠ .delete) : t = .add ∨ t = .replace := by
  cases t <;> simp at h1 h2 ⊢

theorem modifyOne_spec {r r' : Rib} {c : Nat} {fib : Bool} {snap : ElecSnap} {op : Op} {script : List Rib.CEv}
    {ro : Rib.Out} {res : Resp ⊕ Term} (h : modifyOne r c fib snap op script = some (r', ro, res)) :
    (r' = r ∧ ro = {} ∧ (res = .inl (.results [(op.id, .failed)]) ∨ ∃ t, res = .inr t)) ∨
    (gate c op.elec snap = .proceed ∧ ∃ i, Dispatch op script i ∧ Rib.step r i = some (r', ro) ∧
      res = if ro.fatal then .inr ⟨.unimplemented, .unknown⟩ else .inl (.results (resultsOf fib ro))) := by
  revert h
  fun_cases modifyOne r c fib snap op script <;> intro h <;> try cases h
  · exact .inl ⟨rfl, rfl, .inr ⟨_, rfl⟩⟩
  · exact .inl ⟨rfl, rfl, .inl rfl⟩
  · exact .inl ⟨rfl, rfl, .inl rfl⟩
  -- DELETE, then ADD / REPLACE: each with an RPC-fatal output and with an answered one
  · exact .inr ⟨‹_›, _, .inl ⟨rfl, ‹_›, ‹_›⟩, congrArg some ‹_›, (if_pos ‹_›).symm⟩
  · exact .inr ⟨‹_›, _, .inl ⟨rfl, ‹_›, ‹_›⟩, congrArg some ‹_›, (if_neg ‹_›).symm⟩
  · exact .inr ⟨‹_›, _, .inr ⟨rfl, add_or_replace ‹_› ‹_›⟩, ‹_›, (if_pos ‹_›).symm⟩
  · exact .inr ⟨‹_›, _, .inr ⟨rfl, add_or_replace ‹_› ‹_›⟩, ‹_›, (if_neg ‹_›).symm⟩

inductive Loop (c : Nat) (fib : Bool) (snap : ElecSnap) : Rib → List (Op × List Rib.CEv) → Rib → MsgOut → Prop
  | nil (r : Rib) : Loop c fib snap r [] r {}
  | skip {r r' : Rib} {op : Op} {rest : List (Op × List Rib.CEv)} {o : MsgOut}
    (hni : op.ni = "" ∨ ¬ r.hasNI op.ni) (hl : Loop c fib snap r rest r' o) :
    Loop c fib snap r ((op, []) :: rest) r' { o with resps := .results [(op.id, .failed)] :: o.resps }
  | stop {r r' : Rib} {op : Op} {script : List Rib.CEv} (rest : List (Op × List Rib.CEv)) {ro : Rib.Out} {t : Term}
    (h1 : modifyOne r c fib snap op script = some (r', ro, .inr t)) :
    Loop c fib snap r ((op, script) :: rest) r' { term := some t, ribOuts := [ro] }
  | next {r r1 r' : Rib} {op : Op} {script : List Rib.CEv} {rest : List (Op × List Rib.CEv)} {ro : Rib.Out}
    {resp : Resp} {o : MsgOut} (h1 : modifyOne r c fib snap op script = some (r1, ro, .inl resp))
    (hl : Loop c fib snap r1 rest r' o) :
    Loop c fib snap r ((op, script) :: rest) r' { o with resps := resp :: o.resps, ribOuts := ro :: o.ribOuts }

theorem modifyLoop_spec {c : Nat} {fib : Bool} {snap : ElecSnap} {r r' : Rib} {l : List (Op × List Rib.CEv)}
    {o : MsgOut} (h : modifyLoop r c fib snap l = some (r', o)) : Loop c fib snap r l r' o := by
  revert h
  fun_induction modifyLoop r c fib snap l generalizing r' o <;> intro h <;> try cases h
  · exact .nil _
  · rename_i hni hs _ _ hl ih
    cases Decidable.not_not.mp hs
    exact .skip hni (ih hl)
  · exact .stop _ ‹_›
  · rename_i hm _ _ hl ih
    exact .next hm (ih hl)

inductive Recv (s : Server) (c : Nat) (cs : Sess) : Msg → Server → MsgOut → Prop
  | rejected (m : Msg) (t : Term) : Recv s c cs m (s.drop c) { term := some t }
  | params (red pers ack : Nat) :
    Recv s c cs (.params red pers ack)
      { s with sess := s.sess.insert c { cs with params := paramsOf red pers ack, setParams := true, gotMsg := true } }
      { resps := [.paramsOk] }
  | elec (e : U128) (s' : Server) (hx : cs.params.expectElec = true) (hz : e.isZero = false)
    (hrib : s'.rib = s.rib) (hsess : s'.sess = s.sess.insert c { cs with lastElec := some e, gotMsg := true })
    (hreg : if isNewMaster e s.curElec then s'.curElec = some e ∧ s'.curMaster = some c
            else s'.curElec = s.curElec ∧ s'.curMaster = s.curMaster) :
    Recv s c cs (.elec e) s' { resps := [.elec s'.curElec] }
  | ops (l : List (Op × List Rib.CEv)) (r' : Rib) (o : MsgOut)
    (hl : modifyLoop s.rib c cs.params.fibAck ⟨s.curMaster, s.curElec, cs.lastElec⟩ l = some (r', o)) :
    Recv s c cs (.ops l) (finish c ({ s with rib := r', sess := s.sess.insert c { cs with gotMsg := true } }, o)).1 o

theorem params_spec (s : Server) (c : Nat) (cs : Sess) (red pers ack : Nat) :
    Recv s c cs (.params red pers ack) (finish c (doParams s c cs red pers ack)).1
      (finish c (doParams s c cs red pers ack)).2 := by
  fun_cases doParams s c cs red pers ack
  all_goals first | exact .rejected _ _ | exact .params _ _ _

theorem elec_spec (s : Server) (c : Nat) (cs : Sess) (e : U128) :
    Recv s c cs (.elec e) (finish c (doElec s c cs e)).1 (finish c (doElec s c cs e)).2 := by
  fun_cases doElec s c cs e
  · exact .rejected _ _
  · exact .rejected _ _
  · rename_i s1 s2
    refine .elec e s2 (by simpa using ‹¬(!_) = true›) (by simpa using ‹¬e.isZero = true›) ?_ ?_ ?_
    · unfold s2; cases isNewMaster e s.curElec <;> rfl
    · unfold s2; cases isNewMaster e s.curElec <;> rfl
    · unfold s2; cases isNewMaster e s.curElec <;> exact ⟨rfl, rfl⟩

section
variable {s s' : Server} {c : Nat} {cs : Sess} {m : Msg} {o : MsgOut} {l : List (Op × List Rib.CEv)}

theorem ops_spec {r : Server × MsgOut}
    (h : doOps s c cs l = some r) : Recv s c cs (.ops l) (finish c r).1 (finish c r).2 := by
  revert h
  fun_cases doOps s c cs l <;> intro h <;> cases h
  · exact .rejected _ _
  · rw [finish_snd]; exact .ops l _ _ ‹_›

theorem recv_spec (h : recv s c m = some (s', o)) :
    ∃ cs, s.sess.get? c = some cs ∧ Recv s c cs m s' o := by
  unfold recv at h
  split at h
  · cases h
  · rename_i cs hcs
    refine ⟨cs, hcs, ?_⟩
    cases m with
    | multi => cases h; exact .rejected _ _
    | empty => cases h; exact .rejected _ _
    | params red pers ack => have := params_spec s c cs red pers ack; rwa [Option.some.inj h] at this
    | elec e => have := elec_spec s c cs e; rwa [Option.some.inj h] at this
    | ops l =>
      obtain ⟨r, hd, heq⟩ := Option.map_eq_some_iff.mp h
      have := ops_spec hd
      rwa [heq] at this

theorem Recv.rib_eq (h : Recv s c cs m s' o) (hm : ∀ l, m ≠ .ops l) : s'.rib = s.rib := by
  cases h with
  | rejected | params => rfl
  | elec _ _ _ _ hrib => exact hrib
  | ops l => exact absurd rfl (hm l)

theorem Recv.sess_ne (h : Recv s c cs m s' o)
    {c' : Nat} (hne : c' ≠ c) : s'.sess.get? c' = s.sess.get? c' := by
  cases h with
  | rejected => exact Map.get?_erase_ne _ (Ne.symm hne)
  | params => exact Map.get?_insert_ne _ _ (Ne.symm hne)
  | elec _ _ _ _ _ hsess => rw [hsess]; exact Map.get?_insert_ne _ _ (Ne.symm hne)
  | ops => rw [finish_sess_ne _ _ hne]; exact Map.get?_insert_ne _ _ (Ne.symm hne)

/-- `hm`: an operations message can end the RPC after earlier operations of it have changed the RIB
(`Loop.stop` after `Loop.next`) -/
theorem Recv.of_term (h : Recv s c cs m s' o) (ht : o.term.isSome = true) (hm : ∀ l, m ≠ .ops l) : s' = s.drop c := by
  cases h with
  | rejected => rfl
  | params | elec => cases ht
  | ops l => exact absurd rfl (hm l)

end

inductive Step (s : Server) : Ev → Server → EvOut → Prop
  | connect (c : Nat) : Step s (.connect c) (s.connect c) .none
  | close (c : Nat) : Step s (.close c) (s.drop c) .none
  | get (ni : NiSel) (aft : GetAft) : Step s (.get ni aft) s (.get (s.get ni aft))
  | flushRefused (ni : NiSel) (el : FlushElec) (r : FlushRes) (hr : r.code ≠ .ok) : Step s (.flush ni el) s (.flush r [])
  | flushAll (el : FlushElec) (hc : checkFlush s.curElec .all el = none) :
    Step s (.flush .all el) { s with rib := (s.rib.flush s.rib.nis).1 } (.flush ⟨.ok, .none⟩ (s.rib.flush s.rib.nis).2)
  | flushName (n : NI) (el : FlushElec) (hc : checkFlush s.curElec (.name n) el = none) (hn : s.rib.hasNI n = true) :
    Step s (.flush (.name n) el) { s with rib := (s.rib.flush [n]).1 } (.flush ⟨.ok, .none⟩ (s.rib.flush [n]).2)
  | msg (c : Nat) (m : Msg) (cs : Sess) (s' : Server) (o : MsgOut) (hcs : s.sess.get? c = some cs)
    (hr : Recv s c cs m s' o) : Step s (.msg c m) s' (.msg c o)

theorem checkFlush_code {cur : Option U128} {ni : NiSel} {el : FlushElec} {r : FlushRes} :
    checkFlush cur ni el = some r → r.code ≠ .ok := by
  fun_cases checkFlush cur ni el <;> intro h <;> cases h <;> simp

theorem flush_spec (s : Server) (ni : NiSel) (el : FlushElec) :
    Step s (.flush ni el) (s.flush ni el).1 (.flush (s.flush ni el).2.1 (s.flush ni el).2.2) := by
  fun_cases Server.flush s ni el
  · exact .flushRefused _ _ _ (checkFlush_code ‹_›)
  · exact .flushRefused _ _ _ (by simp)
  · have := Step.flushAll (s := s) el ‹_›
    rwa [‹s.rib.flush _ = _›] at this
  · have := Step.flushName (s := s) _ el ‹_› ‹_›
    rwa [‹s.rib.flush _ = _›] at this
  · exact .flushRefused _ _ _ (by simp)

theorem step_spec {s s' : Server} {ev : Ev} {o : EvOut} (h : step s ev = some (s', o)) : Step s ev s' o := by
  cases ev with
  | connect c => cases h; exact .connect c
  | close c => cases h; exact .close c
  | get ni aft => cases h; exact .get ni aft
  | flush ni el => cases h; exact flush_spec s ni el
  | msg c m =>
    obtain ⟨r, hr, heq⟩ := Option.map_eq_some_iff.mp h
    cases heq
    obtain ⟨cs, hcs, hR⟩ := recv_spec hr
    exact .msg c m cs _ _ hcs hR

theorem run_cons_eq_some {s s' : Server} {ev : Ev} {evs : List Ev} {os : List EvOut}
    (h : run s (ev :: evs) = some (s', os)) :
    ∃ s1 o os', step s ev = some (s1, o) ∧ run s1 evs = some (s', os') ∧ os = o :: os' := by
  simp only [run] at h
  split at h
  · cases h
  · rename_i s1 o h1
    split at h
    · cases h
    · rename_i s2 os' h2
      cases h
      exact ⟨s1, o, os', h1, h2, rfl⟩

end Gribi.Server
