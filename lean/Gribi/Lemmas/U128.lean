/-
The order of election ids: `U128.lt` / `U128.le` compare (high word, low word) lexicographically,
and that is the order of the 128-bit numbers.
-/
import Gribi.Model.Server
namespace Gribi.U128

theorem toNat_lt_iff (a b : U128) : a.toNat < b.toNat ↔ a.hi < b.hi ∨ (a.hi = b.hi ∧ a.lo < b.lo) := by
  have h2 := a.lo.toNat_lt
  have h4 := b.lo.toNat_lt
  simp only [U128.toNat, UInt64.lt_iff_toNat_lt, ← UInt64.toNat_inj]
  omega

theorem toNat_inj (a b : U128) : a.toNat = b.toNat ↔ a = b := by
  have h2 := a.lo.toNat_lt
  have h4 := b.lo.toNat_lt
  cases a; cases b
  simp only [U128.toNat, U128.mk.injEq, ← UInt64.toNat_inj] at *
  omega

theorem lt_iff (a b : U128) : U128.lt a b = true ↔ a.toNat < b.toNat := by
  simp [U128.lt, toNat_lt_iff]

theorem le_iff (a b : U128) : U128.le a b = true ↔ a.toNat ≤ b.toNat := by
  have h2 := a.lo.toNat_lt
  have h4 := b.lo.toNat_lt
  simp only [U128.le, U128.toNat, Bool.or_eq_true, decide_eq_true_eq, Bool.and_eq_true, beq_iff_eq,
    UInt64.lt_iff_toNat_lt, UInt64.le_iff_toNat_le, ← UInt64.toNat_inj]
  omega

theorem lt_irrefl (a : U128) : U128.lt a a = false := by
  rw [Bool.eq_false_iff, Ne, lt_iff]; omega

theorem not_lt_and_not_lt_iff (a b : U128) : (U128.lt a b = false ∧ U128.lt b a = false) ↔ a = b := by
  rw [← toNat_inj, Bool.eq_false_iff, Bool.eq_false_iff, Ne, Ne, lt_iff, lt_iff]
  omega

theorem lt_trichotomy (a b : U128) :
    (U128.lt a b = true ∧ U128.lt b a = false) ∨ a = b ∨ (U128.lt a b = false ∧ U128.lt b a = true) := by
  simp only [Bool.eq_false_iff, Ne, lt_iff, ← toNat_inj]
  omega

end Gribi.U128
