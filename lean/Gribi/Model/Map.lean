/-
Association-list finite maps. Core Lean only.

`insert k v m = (k, v) :: erase k m`, `erase k m = m.filter (·.1 ≠ k)`.
Lookups are by the first matching key; all maps built by `insert`/`erase` from `[]`
have distinct keys (`NoDupKeys`), which is proved as a separate invariant and is only
needed for counting lemmas.
-/
set_option linter.unusedSectionVars false
namespace Gribi

abbrev Map (α : Type) (β : Type) := List (α × β)

namespace Map
variable {α β : Type} [DecidableEq α]

def get? : Map α β → α → Option β
  | [], _ => none
  | (a, b) :: t, k => if a = k then some b else get? t k

def has (m : Map α β) (k : α) : Bool := (get? m k).isSome

def erase (m : Map α β) (k : α) : Map α β := m.filter (fun e => !(decide (e.1 = k)))

def insert (m : Map α β) (k : α) (v : β) : Map α β := (k, v) :: erase m k

def keys (m : Map α β) : List α := m.map (·.1)

/-- remove every binding whose key satisfies `p`. -/
def eraseP (m : Map α β) (p : α → Bool) : Map α β := m.filter (fun e => !(p e.1))

def NoDupKeys (m : Map α β) : Prop := (keys m).Nodup

@[simp] theorem get?_nil (k : α) : get? ([] : Map α β) k = none := rfl

theorem get?_cons (a : α) (b : β) (t : Map α β) (k : α) :
    get? ((a, b) :: t) k = if a = k then some b else get? t k := rfl

theorem eq_nil_of_get? {m : Map α β} (h : ∀ k, get? m k = none) : m = [] := by
  cases m with
  | nil => rfl
  | cons e t =>
    have : get? (e :: t) e.1 = some e.2 := if_pos rfl
    rw [h] at this; cases this

theorem get?_eraseP (m : Map α β) (p : α → Bool) (k : α) :
    get? (eraseP m p) k = if p k then none else get? m k := by
  induction m with
  | nil => simp [eraseP]
  | cons e t ih =>
    obtain ⟨a, b⟩ := e
    unfold eraseP at ih ⊢
    by_cases hp : p a
    · simp only [List.filter, hp, Bool.not_true]
      rw [ih, get?_cons]
      by_cases h : a = k
      · subst h; simp [hp]
      · simp [h]
    · simp only [List.filter, hp, Bool.not_false]
      rw [get?_cons, get?_cons, ih]
      by_cases h : a = k
      · subst h; simp [hp]
      · simp [h]

theorem get?_erase (m : Map α β) (k k' : α) :
    get? (erase m k) k' = if k = k' then none else get? m k' := by
  rw [show erase m k = eraseP m (fun a => decide (a = k)) from rfl, get?_eraseP]
  by_cases h : k = k' <;> simp [h, Ne.symm]

@[simp] theorem get?_erase_self (m : Map α β) (k : α) : get? (erase m k) k = none := by
  simp [get?_erase]

theorem get?_erase_ne (m : Map α β) {k k' : α} (h : k ≠ k') :
    get? (erase m k) k' = get? m k' := by
  simp [get?_erase, h]

theorem get?_erase_some {m : Map α β} {k k' : α} {v : β} (h : get? (erase m k) k' = some v) :
    k ≠ k' ∧ get? m k' = some v := by
  rw [get?_erase] at h
  split at h
  · cases h
  · exact ⟨‹_›, h⟩

theorem get?_insert (m : Map α β) (k k' : α) (v : β) :
    get? (insert m k v) k' = if k = k' then some v else get? m k' := by
  unfold insert
  rw [get?_cons, get?_erase]
  by_cases h : k = k' <;> simp [h]

theorem get?_insert_some {m : Map α β} {k k' : α} {v w : β} (h : get? (insert m k v) k' = some w) :
    k = k' ∧ v = w ∨ k ≠ k' ∧ get? m k' = some w := by
  rw [get?_insert] at h
  split at h
  · exact .inl ⟨‹_›, Option.some.inj h⟩
  · exact .inr ⟨‹_›, h⟩

theorem getD_get?_insert (m : Map α β) (k k' : α) (v d : β) :
    ((insert m k v).get? k').getD d = if k = k' then v else (m.get? k').getD d := by
  rw [get?_insert]; split <;> rfl

@[simp] theorem get?_insert_self (m : Map α β) (k : α) (v : β) :
    get? (insert m k v) k = some v := by simp [get?_insert]

theorem get?_insert_ne (m : Map α β) {k k' : α} (v : β) (h : k ≠ k') :
    get? (insert m k v) k' = get? m k' := by simp [get?_insert, h]

theorem erase_insert_self (m : Map α β) (k : α) (v : β) : erase (insert m k v) k = erase m k := by
  simp [insert, erase, List.filter_filter]

theorem insert_insert_self (m : Map α β) (k : α) (a b : β) : insert (insert m k a) k b = insert m k b := by
  rw [insert, erase_insert_self]; rfl

/-! For the ties by translation, whose tables are the model's with the keys renamed by an injective `f`
and the values mapped by `g` (the server's session table, the client's pending set). -/
section rename
variable {α' β' : Type} [DecidableEq α'] (f : α → α') (g : β → β') (hf : ∀ a b, f a = f b → a = b)
include hf

theorem get?_rename (m : Map α β) (k : α) :
    get? (m.map fun e => (f e.1, g e.2)) (f k) = (get? m k).map g := by
  induction m with
  | nil => rfl
  | cons e t ih =>
    obtain ⟨a, b⟩ := e
    have : (f a = f k) = (a = k) := propext ⟨hf _ _, congrArg f⟩
    simp only [List.map_cons, get?_cons, this, ih]
    split <;> rfl

theorem erase_rename (m : Map α β) (k : α) :
    erase (m.map fun e => (f e.1, g e.2)) (f k) = (erase m k).map fun e => (f e.1, g e.2) := by
  have : ∀ a, (f a = f k) = (a = k) := fun a => propext ⟨hf _ _, congrArg f⟩
  simp [erase, List.filter_map, Function.comp_def, this]

theorem insert_rename (m : Map α β) (k : α) (v : β) :
    insert (m.map fun e => (f e.1, g e.2)) (f k) (g v) = (insert m k v).map fun e => (f e.1, g e.2) := by
  rw [insert, erase_rename f g hf]; rfl

end rename

theorem get?_some_mem {m : Map α β} {k : α} {v : β} (h : get? m k = some v) : (k, v) ∈ m := by
  induction m with
  | nil => simp at h
  | cons e t ih =>
    obtain ⟨a, b⟩ := e
    rw [get?_cons] at h
    by_cases hak : a = k
    · simp [hak] at h; subst hak; subst h; exact List.mem_cons_self
    · simp [hak] at h; exact List.mem_cons_of_mem _ (ih h)

theorem mem_keys_of_get? {m : Map α β} {k : α} {v : β} (h : get? m k = some v) : k ∈ keys m := by
  have := get?_some_mem h
  exact List.mem_map.mpr ⟨(k, v), this, rfl⟩

theorem get?_eq_none {m : Map α β} {k : α} : get? m k = none ↔ k ∉ keys m := by
  induction m with
  | nil => exact ⟨fun _ => nofun, fun _ => rfl⟩
  | cons e t ih =>
    show (if e.1 = k then some e.2 else get? t k) = none ↔ k ∉ e.1 :: keys t
    by_cases h : e.1 = k
    · simp [h]
    · simp [h, ih, Ne.symm h]

theorem erase_of_get?_none {m : Map α β} {k : α} (h : get? m k = none) : erase m k = m :=
  List.filter_eq_self.mpr fun e he => by
    have : e.1 ≠ k := fun hk => get?_eq_none.mp h (hk ▸ List.mem_map.mpr ⟨e, he, rfl⟩)
    simpa using this

theorem foldl_erase (l : List α) (m : Map α β) : l.foldl erase m = m.filter fun e => decide (e.1 ∉ l) := by
  induction l generalizing m with
  | nil => exact (List.filter_eq_self.mpr fun _ _ => by simp).symm
  | cons a t ih =>
    rw [List.foldl_cons, ih, erase, List.filter_filter]
    exact List.filter_congr fun e _ => by simp [Bool.and_comm]

theorem get?_of_mem_nodup {m : Map α β} (hn : NoDupKeys m) {k : α} {v : β} (h : (k, v) ∈ m) :
    get? m k = some v := by
  induction m with
  | nil => cases h
  | cons e t ih =>
    have hn' := List.nodup_cons.mp hn
    rw [get?_cons e.1 e.2]
    rcases List.mem_cons.mp h with rfl | hmem
    · exact if_pos rfl
    · rw [if_neg fun hk : e.1 = k => hn'.1 (List.mem_map.mpr ⟨(k, v), hmem, hk.symm⟩)]
      exact ih hn'.2 hmem

theorem nodup_filter {m : Map α β} (hn : NoDupKeys m) (p : α × β → Bool) : NoDupKeys (m.filter p) :=
  List.Nodup.sublist (List.filter_sublist.map _) hn

theorem nodup_erase {m : Map α β} (hn : NoDupKeys m) (k : α) : NoDupKeys (erase m k) :=
  nodup_filter hn _

theorem nodup_eraseP {m : Map α β} (hn : NoDupKeys m) (p : α → Bool) : NoDupKeys (eraseP m p) :=
  nodup_filter hn _

theorem not_mem_keys_erase (m : Map α β) (k : α) : k ∉ keys (erase m k) := by
  intro h
  obtain ⟨e, he, rfl⟩ := List.mem_map.mp h
  have := (List.mem_filter.mp he).2
  simp at this

theorem nodup_insert {m : Map α β} (hn : NoDupKeys m) (k : α) (v : β) : NoDupKeys (insert m k v) := by
  simp only [insert, NoDupKeys, keys, List.map_cons, List.nodup_cons]
  exact ⟨not_mem_keys_erase m k, nodup_erase hn k⟩

theorem nodup_nil : NoDupKeys ([] : Map α β) := by simp [NoDupKeys, keys]

theorem has_iff {m : Map α β} {k : α} : has m k = true ↔ ∃ v, get? m k = some v := Option.isSome_iff_exists

theorem has_of_get? {m : Map α β} {k : α} {v : β} (h : get? m k = some v) : has m k = true := has_iff.mpr ⟨v, h⟩

theorem has_insert_of_has {m : Map α β} {k : α} (h : has m k = true) (k' : α) (v : β) : has (insert m k' v) k = true := by
  unfold has
  rw [get?_insert]
  split
  · rfl
  · exact h

theorem has_erase {m : Map α β} {k k' : α} : has (erase m k) k' = true ↔ k ≠ k' ∧ has m k' = true := by
  unfold has
  rw [get?_erase]
  split
  · exact ⟨nofun, fun h => absurd ‹_› h.1⟩
  · exact ⟨fun h => ⟨‹_›, h⟩, fun h => h.2⟩

theorem has_eraseP {m : Map α β} {p : α → Bool} {k : α} : has (eraseP m p) k = true ↔ p k = false ∧ has m k = true := by
  unfold has
  rw [get?_eraseP]
  cases p k
  · exact ⟨fun h => ⟨rfl, h⟩, fun h => h.2⟩
  · exact ⟨nofun, nofun⟩

/-- 1 if the binding `k ↦ o` exists and satisfies `q`, else 0 -/
def hit (q : α × β → Bool) (k : α) : Option β → Nat
  | some v => if q (k, v) then 1 else 0
  | none => 0

@[simp] theorem hit_none (q : α × β → Bool) (k : α) : hit q k none = 0 := rfl
@[simp] theorem hit_some (q : α × β → Bool) (k : α) (v : β) : hit q k (some v) = if q (k, v) then 1 else 0 := rfl

theorem filter_key {m : Map α β} (hn : NoDupKeys m) (k : α) :
    m.filter (fun e => decide (e.1 = k)) = ((get? m k).map (k, ·)).toList := by
  induction m with
  | nil => rfl
  | cons e t ih =>
    have hn' := List.nodup_cons.mp hn
    rw [List.filter_cons, get?_cons e.1 e.2 t k]
    by_cases h : e.1 = k
    · subst h
      rw [if_pos (decide_eq_true rfl), if_pos rfl, List.filter_eq_nil_iff.mpr]
      · rfl
      · exact fun x hx hk => hn'.1 (List.mem_map.mpr ⟨x, hx, of_decide_eq_true hk⟩)
    · rw [if_neg (mt of_decide_eq_true h), if_neg h]
      exact ih hn'.2

theorem hit_eq_countP (q : α × β → Bool) (k : α) (o : Option β) :
    hit q k o = ((o.map (k, ·)).toList).countP q := by
  cases o with
  | none => rfl
  | some v => exact List.countP_singleton.symm

theorem countP_eraseP (m : Map α β) (q : α × β → Bool) (p : α → Bool) :
    (eraseP m p).countP q = m.countP q - (m.filter fun e => p e.1).countP q := by
  rw [List.countP_eq_countP_filter_add m q fun e => p e.1, Nat.add_sub_cancel_left]
  rfl

theorem countP_erase {m : Map α β} (hn : NoDupKeys m) (q : α × β → Bool) (k : α) :
    (erase m k).countP q = m.countP q - hit q k (get? m k) := by
  rw [show erase m k = eraseP m (fun a => decide (a = k)) from rfl, countP_eraseP, filter_key hn, hit_eq_countP]

theorem countP_insert {m : Map α β} (hn : NoDupKeys m) (q : α × β → Bool) (k : α) (v : β) :
    (insert m k v).countP q =
      (if q (k, v) then 1 else 0) + (m.countP q - hit q k (get? m k)) := by
  unfold insert
  rw [List.countP_cons, countP_erase hn]
  omega

theorem countP_pos_of_get? {m : Map α β} {k : α} {v : β} (h : get? m k = some v)
    (q : α × β → Bool) (hq : q (k, v) = true) : 0 < m.countP q :=
  List.countP_pos_iff.mpr ⟨(k, v), get?_some_mem h, hq⟩

theorem countP_pos_iff {m : Map α β} (hn : NoDupKeys m) (q : α × β → Bool) :
    0 < m.countP q ↔ ∃ k v, get? m k = some v ∧ q (k, v) = true := by
  rw [List.countP_pos_iff]
  exact ⟨fun ⟨⟨k, v⟩, hm, hq⟩ => ⟨k, v, get?_of_mem_nodup hn hm, hq⟩,
    fun ⟨k, v, hg, hq⟩ => ⟨(k, v), get?_some_mem hg, hq⟩⟩

end Map
end Gribi
