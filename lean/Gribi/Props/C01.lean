/-
C01 — Installed state equals the fold of acknowledged operations.

For every history of AddEntry / DeleteEntry / Flush / AddNetworkInstance / SetPostChangeHook
calls on the RIB model, with forward references allowed or not, and for every cascade order
the model accepts, the installed entries are exactly the result of applying the
*acknowledged* operations (those reported as programmed, in report order; flushes) to the
initial contents under gRIBI semantics. Operations answered FAILED and operations that are
held leave no trace.
-/
import Gribi.Lemmas.RibStep
namespace Gribi.C01
open Gribi Rib Spec

/-- ADD/REPLACE operations go to `AddEntry`, DELETE operations to `DeleteEntry` (this is the
dispatch of `server.modifyEntry`: `Server.modifyOne_spec` for the server model). -/
def inWf : Rib.In → Prop
  | .add op _ => op.ty = .add ∨ op.ty = .replace
  | .del op => op.ty = .delete
  | _ => True

instance (i : Rib.In) : Decidable (inWf i) := by
  cases i <;> simp only [inWf] <;> infer_instance

def PendWf (s : Rib) : Prop :=
  ∀ id op, s.pend.get? id = some op → (op.ty = .add ∨ op.ty = .replace)

def acks (i : Rib.In) (o : Rib.Out) : List Ack :=
  match i with
  | .flush nis => [.flushed nis]
  | _ => o.oks.map .prog

def acksAll : List Rib.In → List Rib.Out → List Ack
  | i :: is, o :: os => acks i o ++ acksAll is os
  | _, _ => []

theorem foldl_prog (l : List Op) (hl : ∀ op ∈ l, op.ty = .add ∨ op.ty = .replace) (m : Map EKey Payload) :
    (l.map Ack.prog).foldl applyAck m = l.foldl (fun m op => m.insert (op.ni, op.key) op.pl) m := by
  induction l generalizing m with
  | nil => rfl
  | cons op t ih =>
    have : applyAck m (.prog op) = m.insert (op.ni, op.key) op.pl := by
      rcases hl op List.mem_cons_self with h | h <;> simp [applyAck, h]
    simp only [List.map_cons, List.foldl_cons, this]
    exact ih (fun x hx => hl x (List.mem_cons_of_mem _ hx)) _

theorem pendWf_step {s s' : Rib} {i : Rib.In} {o : Out} (h : Step s i s' o) (hp : PendWf s) (hw : inWf i) :
    PendWf s' := fun id x hg =>
  (h.pend hg).elim (hp id x) fun ⟨_, hi, _⟩ => by subst hi; exact hw

theorem step_ents {s s' : Rib} {i : Rib.In} {o : Out} (h : Step s i s' o) (hp : PendWf s) (hw : inWf i) :
    s'.ents = (acks i o).foldl applyAck s.ents := by
  cases h with
  | add ha =>
    -- what is acknowledged is the operation itself or was held, so it is an ADD or REPLACE
    exact ha.frame.ents.trans (foldl_prog _ (fun x hx => (ha.oks hx).elim (· ▸ hw) fun ⟨id, hg⟩ => hp id x hg) _).symm
  | del hd =>
    have hw : _ = OpType.delete := hw
    cases hd with
    | fatal | invalid | refd => rfl
    | absent _ hn => simp only [acks, List.map, List.foldl, applyAck, hw, Map.erase_of_get?_none hn]
    | ok => simp only [acks, List.map, List.foldl, applyAck, hw, remove_ents]
  | flush nis => exact flush_ents s nis
  | addNI ni => exact addNI_ents s ni
  | setHook => rfl

/-- the contents are the fold of the acknowledgements, as lists and not only as maps -/
theorem fold_eq {s s' : Rib} {ins : List Rib.In} {outs : List Out}
    (h : run s ins = some (s', outs)) (hp : PendWf s) (hw : ∀ i ∈ ins, inWf i) :
    s'.ents = (acksAll ins outs).foldl applyAck s.ents := by
  induction ins generalizing s outs with
  | nil => obtain ⟨rfl, rfl⟩ := run_nil.mp h; rfl
  | cons i rest ih =>
    obtain ⟨s1, o, os, h1, h2, rfl⟩ := run_cons.mp h
    have hi := hw i List.mem_cons_self
    rw [ih h2 (pendWf_step (.of_step h1) hp hi) fun j hj => hw j (List.mem_cons_of_mem _ hj),
      step_ents (.of_step h1) hp hi, acksAll, List.foldl_append]

/-- **C01.** After any accepted history that dispatches as the server does (`inWf`), from a state
that holds only ADDs and REPLACEs (`PendWf`), the installed entries are the fold of the
acknowledged operations over the initial contents. -/
theorem c01_fold {s s' : Rib} {ins : List Rib.In} {outs : List Out}
    (h : run s ins = some (s', outs)) (hp : PendWf s) (hw : ∀ i ∈ ins, inWf i) :
    s'.ents ≃ₘ (acksAll ins outs).foldl applyAck s.ents :=
  fold_eq h hp hw ▸ .refl _

/-- from an empty RIB: contents = `Spec.fold` of the acknowledgements -/
theorem c01_fold_from_new (dflt : NI) (fwd : Bool) {s' : Rib} {ins : List Rib.In} {outs : List Out}
    (h : run (Rib.new dflt fwd) ins = some (s', outs)) (hw : ∀ i ∈ ins, inWf i) :
    s'.ents ≃ₘ Spec.fold (acksAll ins outs) :=
  c01_fold h (fun _ _ hg => nomatch hg) hw

/-- a step that acknowledges nothing (FAILED, held, fatal) leaves the contents unchanged -/
theorem c01_failed_no_trace {s s' : Rib} {i : Rib.In} {o : Out} (h : step s i = some (s', o))
    (hp : PendWf s) (hw : inWf i) (hno : acks i o = []) : s'.ents ≃ₘ s.ents := by
  rw [step_ents (.of_step h) hp hw, hno]; exact .refl _

/-- DELETE removes only the named key -/
theorem c01_delete_only_named (s : Rib) (op : Op) (k : EKey)
    (hk : k ≠ (op.ni, op.key)) : (Rib.del s op).1.ents.get? k = s.ents.get? k := by
  suffices ∀ {s' o}, Deleted s op s' o → s'.ents.get? k = s.ents.get? k from this (.of_del s op)
  intro s' o h
  cases h with
  | ok => rw [remove_ents]; exact Map.get?_erase_ne _ (Ne.symm hk)
  | _ => rfl

/-- DELETE is idempotent: deleting a key that is not installed succeeds and changes nothing -/
theorem c01_delete_idempotent (s : Rib) (op : Op) (h : classifyDel s op = .absent)
    (hni : ¬ (op.cls = .noEntry ∨ ¬ s.hasNI op.ni)) :
    (Rib.del s op).1 = s ∧ (Rib.del s op).2.oks = [op] ∧ (Rib.del s op).2.fails = [] := by
  unfold Rib.del
  rw [if_neg hni]
  simp [h]

end Gribi.C01
