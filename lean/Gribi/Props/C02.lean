/-
C02 — Programmed-acknowledgement tracks reference resolvability.

* an ADD/REPLACE is acknowledged only at a state where everything it references is installed;
* hence no installed entry dangles (`Closed`) as long as state changes through Modify and
  full flushes only;
* with forward references allowed an unresolved operation is held, and after every step no
  held operation is installable (it was acknowledged by the cascade of the step that made it
  resolvable); with forward references disallowed nothing is ever held;
* from a state whose held operations have distinct ids (`Map.NoDupKeys s.pend`: `insert` and
  `erase` keep that, but it is a hypothesis of `cascade_exists` / `add_total`, not a proved
  invariant of runs) the retry cascade has an accepted order: the relation the theorems quantify
  over is not empty there.
-/
import Gribi.Props.C03
namespace Gribi.C02
open Gribi Rib Spec

def Closed (s : Rib) : Prop :=
  ∀ k p, s.ents.get? k = some p → entryResolved s.ents k p = true

def NoneInstallable (s : Rib) : Prop :=
  ∀ id op, s.pend.get? id = some op → classify s op ≠ .ok

theorem entryResolved_mono {a b : Map EKey Payload} (hm : ∀ k, a.has k = true → b.has k = true)
    (k : EKey) (p : Payload) (h : entryResolved a k p = true) : entryResolved b k p = true :=
  entryResolved_iff.mpr fun t ht => hm t (entryResolved_iff.mp h t ht)

/-- **C02 (acknowledged ⇒ resolved).** An operation that `classify` lets through has all its
references installed at that moment: a group's next-hops in its own instance, a top-level
entry's group in the named-or-own instance. Backup groups are not looked at. -/
theorem c02_ack_resolvable {s : Rib} {op : Op} (hc : classify s op = .ok) :
    entryResolved s.ents (op.ni, op.key) op.pl = true :=
  (classify_ok_iff.mp hc).2

/-- every cascade acknowledgement is an installation at a state where the operation resolved -/
theorem c02_cascade_ack_resolvable {s s' : Rib} {id : Nat} {o : Out} (h : fire s (.ok id) = some (s', o)) :
    ∃ op, s.pend.get? id = some op ∧ o.oks = [op] ∧ entryResolved s.ents (op.ni, op.key) op.pl = true := by
  obtain ⟨_, op, hg, ⟨he, hc, hp⟩ | ⟨he, _⟩⟩ := fire_some h <;> cases he
  cases hp
  exact ⟨op, hg, rfl, c02_ack_resolvable hc⟩

theorem closed_prog {s : Rib} {op : Op} (hcl : Closed s) (hc : classify s op = .ok) (id : Nat) :
    Closed (prog s op id).1 := by
  intro k p hg
  rw [prog_ents] at hg ⊢
  have hm : ∀ k', s.ents.has k' = true → (s.ents.insert (op.ni, op.key) op.pl).has k' = true :=
    fun _ h => Map.has_insert_of_has h _ _
  rcases Map.get?_insert_some hg with ⟨rfl, rfl⟩ | ⟨_, hg⟩
  · exact entryResolved_mono hm _ _ (c02_ack_resolvable hc)
  · exact entryResolved_mono hm _ _ (hcl k p hg)

theorem closed_cascade {s s' : Rib} {o : Out} (h : Cascade s s' o) (hcl : Closed s) : Closed s' := by
  induction h with
  | done => exact hcl
  | ok _ hc _ ih => exact ih (closed_prog hcl hc _)
  | fail _ _ _ ih => exact ih hcl

theorem closed_added {s s' : Rib} {op : Op} {o : Out} (h : Added s op s' o) (hcl : Closed s) : Closed s' := by
  cases h with
  | ok _ hc hcas _ => exact closed_cascade hcas (closed_prog hcl hc _)
  | _ => exact hcl

theorem closed_add {s s' : Rib} {op : Op} {script : List CEv} {o : Out}
    (h : Rib.add s op script = some (s', o)) (hcl : Closed s) : Closed s' :=
  closed_added (.of_add h) hcl

/-- under `Inv` nothing installed refers to an entry whose guarding counter is zero -/
theorem closed_remove {s : Rib} (hcl : Closed s) (hi : Inv s) {k0 : EKey} (p0 : Payload)
    (h0 : guardCnt s k0.1 k0.2 = 0) : Closed (remove s k0 p0) := by
  intro k p hg
  rw [remove_ents] at hg ⊢
  have hg := (Map.get?_erase_some hg).2
  refine entryResolved_iff.mpr fun t ht => ?_
  have hne : k0 ≠ t := fun e => by
    have := hi.guard_pos hg ht
    rw [← e, h0] at this
    exact Nat.lt_irrefl 0 this
  rw [Map.has, Map.get?_erase_ne _ hne]
  exact entryResolved_iff.mp (hcl k p hg) t ht

theorem closed_deleted {s s' : Rib} {op : Op} {o : Out} (h : Deleted s op s' o) (hcl : Closed s) (hi : Inv s) :
    Closed s' := by
  cases h with
  | ok _ _ h0 => exact closed_remove hcl hi _ h0
  | _ => exact hcl

theorem closed_del {s : Rib} (hcl : Closed s) (hi : Inv s) (op : Op) : Closed (Rib.del s op).1 :=
  closed_deleted (.of_del s op) hcl hi

/-- a flush of *all* instances leaves nothing, hence nothing dangling -/
theorem closed_flush_all {s : Rib} (hi : Inv s) (nis : List NI) (hall : ∀ n, s.hasNI n = true → nis.contains n = true) :
    Closed (flush s nis).1 := by
  intro k p hg
  rw [flush_ents, Map.get?_eraseP] at hg
  split at hg
  · cases hg
  · exact absurd (hall _ (hi.wf k p hg).1) ‹_›

/-- `hn` is weaker than `s'.hasNI x → s.hasNI x`, which fails across `addNI`: only the instance in which
a resolved entry finds its group is asked for -/
theorem classify_ok_mono {s s' : Rib} (hm : ∀ k, s'.has k = true → s.has k = true)
    (hn : ∀ x g, s'.hasNI x = true → s'.has (x, .nhg g) = true → s.hasNI x = true)
    {op : Op} (h : classify s' op = .ok) : classify s op = .ok := by
  obtain ⟨v, hr⟩ := classify_ok_iff.mp h
  refine classify_ok_iff.mpr ⟨⟨v.cls, v.shape, fun h => hm _ (v.replace h), fun hT hne => ?_⟩,
    entryResolved_mono hm _ _ hr⟩
  have := entryResolved_iff.mp hr _ (refs_top hT _)
  rw [tgtNI, if_neg hne] at this
  exact hn _ _ (v.grpNI hT hne) this

theorem quiescent_none {s : Rib} (h : quiescent s = true) : NoneInstallable s := fun id op hg hc => by
  have := List.all_eq_true.mp h (id, op) (Map.get?_some_mem hg)
  rw [hc] at this
  cases this

theorem none_of_shrink {s s' : Rib} (h : NoneInstallable s) (hm : ∀ k, s'.has k = true → s.has k = true)
    (hn : ∀ x g, s'.hasNI x = true → s'.has (x, .nhg g) = true → s.hasNI x = true)
    (hp : ∀ id x, s'.pend.get? id = some x → s.pend.get? id = some x ∨ classify s x = .hold) :
    NoneInstallable s' := fun id op hg hc =>
  have hc := classify_ok_mono hm hn hc
  (hp id op hg).elim (h id op · hc) fun h' => nomatch h'.symm.trans hc

/-- **C02 (completeness).** Every accepted step keeps, under `Inv`, that no held operation is
installable (over histories: `c02_complete`): whatever became resolvable was acknowledged by the
cascade of the step that made it so. -/
theorem c02_complete_step {s s' : Rib} {i : Rib.In} {o : Out} (h : Step s i s' o)
    (hq : NoneInstallable s) (hi : Inv s) : NoneInstallable s' := by
  -- what is held afterwards was held before or has just been submitted and is unresolved
  have hp : ∀ id x, s'.pend.get? id = some x → s.pend.get? id = some x ∨ classify s x = .hold :=
    fun id x hg => (h.pend hg).imp_right fun ⟨_, _, _, _, hc, _⟩ => hc
  have same : ∀ {t : Rib}, t.nis = s.nis → ∀ x (g : Nat), t.hasNI x = true → t.has (x, .nhg g) = true →
      s.hasNI x = true := fun e x _ h _ => by rwa [hasNI, e] at h
  cases h with
  | add ha =>
    cases ha with
    | ok _ _ _ hqq => exact quiescent_none hqq
    | _ => exact none_of_shrink hq (fun _ h => h) (same rfl) hp
  | del hd =>
    refine none_of_shrink hq (fun k hk => ?_) (same hd.frame.nis) hp
    cases hd with
    | ok => exact (Map.has_erase.mp (by rwa [Rib.has, remove_ents] at hk)).2
    | _ => exact hk
  | flush nis =>
    exact none_of_shrink hq (fun k hk => (Map.has_eraseP.mp (by rwa [Rib.has, flush_ents] at hk)).2) (same (flush_frame ..).nis) hp
  | addNI ni =>
    -- a new, empty instance resolves nothing that did not resolve before
    refine none_of_shrink hq (fun k hk => by rwa [Rib.has, addNI_ents] at hk) (fun x g _ h2 => ?_) hp
    rw [Rib.has, addNI_ents] at h2
    obtain ⟨p, hp⟩ := Map.has_iff.mp h2
    exact (hi.wf _ _ hp).1
  | setHook => exact none_of_shrink hq (fun _ h => h) (same rfl) hp

structure Good (s : Rib) : Prop where
  inv : Inv s
  pni : C03.PendNI s
  closed : Closed s
  none : NoneInstallable s

def flushFull (s : Rib) : Rib.In → Prop
  | .flush nis => ∀ n, s.hasNI n = true → nis.contains n = true
  | _ => True

/-- every Flush of the history names all instances that exist when it is issued -/
def FullFlushes : Rib → List Rib.In → Prop
  | _, [] => True
  | s, i :: rest => flushFull s i ∧ (∀ s' o, step s i = some (s', o) → FullFlushes s' rest)

theorem good_new (d : NI) (f : Bool) : Good (Rib.new d f) :=
  ⟨inv_new d f, fun _ _ hg => (nomatch hg), fun _ _ hg => (nomatch hg), fun _ _ hg => (nomatch hg)⟩

theorem closed_step {s s' : Rib} {i : Rib.In} {o : Out} (h : Step s i s' o) (hg : Good s)
    (hf : flushFull s i) : Closed s' := by
  cases h with
  | add ha => exact closed_added ha hg.closed
  | del hd => exact closed_deleted hd hg.closed hg.inv
  | flush nis => exact closed_flush_all hg.inv nis hf
  | addNI ni => intro k p h; rw [addNI_ents] at h ⊢; exact hg.closed k p h
  | setHook => exact hg.closed

theorem good_run {s s' : Rib} {ins : List Rib.In} {outs : List Out}
    (h : run s ins = some (s', outs)) (hg : Good s) (hf : FullFlushes s ins) : Good s' := by
  induction ins generalizing s outs with
  | nil => obtain ⟨rfl, _⟩ := run_nil.mp h; exact hg
  | cons i rest ih =>
    obtain ⟨s1, o, os, h1, h2, _⟩ := run_cons.mp h
    have hs := Step.of_step h1
    obtain ⟨i1, p1⟩ := C03.inv_step hs hg.inv hg.pni
    exact ih h2 ⟨i1, p1, closed_step hs hg hf.1, c02_complete_step hs hg.none hg.inv⟩ (hf.2 s1 o h1)

/-- **C02 (closure).** Starting from an empty RIB, after any accepted history of Modify
operations and full flushes — dependencies arriving last, deleted and re-added, or never —
no installed entry dangles, and no held operation is resolvable. -/
theorem c02_closed_complete (d : NI) (f : Bool) {s' : Rib} {ins : List Rib.In} {outs : List Out}
    (h : run (Rib.new d f) ins = some (s', outs)) (hf : FullFlushes (Rib.new d f) ins) :
    Closed s' ∧ NoneInstallable s' :=
  let g := good_run h (good_new d f) hf
  ⟨g.closed, g.none⟩

/-- completeness does not need the flushes to be full -/
theorem c02_complete {s s' : Rib} {ins : List Rib.In} {outs : List Out}
    (h : run s ins = some (s', outs)) (hi : Inv s) (hp : C03.PendNI s) (hq : NoneInstallable s) :
    NoneInstallable s' :=
  (run_invariant (P := fun s => (Inv s ∧ C03.PendNI s) ∧ NoneInstallable s)
    (fun h hs => ⟨C03.inv_step h hs.1.1 hs.1.2, c02_complete_step h hs.2 hs.1.1⟩) h ⟨⟨hi, hp⟩, hq⟩).2

/-- **C02 (disallowed).** With forward references off, nothing is ever held (the FAILED answer
in the same call is `c02_disallowed_failed`). -/
theorem c02_disallowed_step {s s' : Rib} {i : Rib.In} {o : Out} (h : step s i = some (s', o))
    (hf : s.fwd = false) (hp : s.pend = []) : s'.pend = [] ∧ s'.fwd = false := by
  have h := Step.of_step h
  refine ⟨Map.eq_nil_of_get? fun id => ?_, h.grows.fwd.trans hf⟩
  -- what is held afterwards was held before, or has just been held, which needs `fwd`
  cases hg : s'.pend.get? id with
  | none => rfl
  | some x =>
    rcases h.pend hg with h' | ⟨_, _, _, _, _, hfw⟩
    · rw [hp] at h'; cases h'
    · exact nomatch hf.symm.trans hfw

/-- with forward references off, an unresolved ADD is answered FAILED at once -/
theorem c02_disallowed_failed {s : Rib} {op : Op} (hf : s.fwd = false) (hh : classify s op = .hold)
    (hni : ¬ (op.cls = .noEntry ∨ ¬ s.hasNI op.ni)) :
    Rib.add s op [] = some (s, { fails := [op.id] }) := by
  rw [add_hold hni hh, if_neg (fun h => h rfl), hf]
  rfl

theorem length_erase_lt {m : Map Nat Op} {id : Nat} {op : Op} (h : m.get? id = some op) :
    (m.erase id).length < m.length :=
  List.length_filter_lt_length_iff_exists.mpr ⟨(id, op), Map.get?_some_mem h, by simp⟩

/-- `hn`: `quiescent` looks at every binding of `pend`, `fire` only at the one `get?` finds -/
theorem exists_fire {s : Rib} (hn : Map.NoDupKeys s.pend) (hq : quiescent s = false) :
    ∃ ev s1 o1 id op, fire s ev = some (s1, o1) ∧ s.pend.get? id = some op ∧ s1.pend = s.pend.erase id := by
  obtain ⟨e, he, hne⟩ := List.all_eq_false.mp hq
  have hget := Map.get?_of_mem_nodup hn (show (e.1, e.2) ∈ s.pend from he)
  cases hc : classify s e.2 with
  | hold => exact absurd (by rw [hc]; rfl) hne
  | ok => exact ⟨.ok e.1, _, _, e.1, e.2, fire_ok hget hc, hget, prog_pend ..⟩
  | err => exact ⟨.fail e.1, _, _, e.1, e.2, fire_fail hget hc, hget, rfl⟩

/-- **C02 (the cascade terminates and exists).** From every state with distinct held ids
there is an accepted cascade: a finite order of firings ending in a quiescent state. -/
theorem cascade_exists : ∀ (n : Nat) (s : Rib), s.pend.length ≤ n → Map.NoDupKeys s.pend →
    ∃ script s' o, runCascade s script = some (s', o) ∧ quiescent s' = true := by
  intro n
  induction n with
  | zero =>
    intro s hl _
    have : s.pend = [] := List.length_eq_zero_iff.mp (Nat.le_zero.mp hl)
    exact ⟨[], s, {}, rfl, by rw [quiescent, this]; rfl⟩
  | succ n ih =>
    intro s hl hn
    cases hq : quiescent s
    · -- every firing takes one held operation away
      obtain ⟨ev, s1, o1, id, op, hf, hg, hp⟩ := exists_fire hn hq
      obtain ⟨script, s', o, hr, hq'⟩ := ih s1 (by rw [hp]; exact Nat.le_of_lt_succ (Nat.lt_of_lt_of_le (length_erase_lt hg) hl))
        (hp ▸ Map.nodup_erase hn _)
      exact ⟨ev :: script, s', _, runCascade_cons.mpr ⟨_, _, _, hf, hr, rfl⟩, hq'⟩
    · exact ⟨[], s, {}, rfl, hq⟩

/-- with distinct held ids `AddEntry` has an accepted outcome: the model's relation is total there -/
theorem add_total (s : Rib) (op : Op) (hn : Map.NoDupKeys s.pend) :
    ∃ script, (Rib.add s op script).isSome = true := by
  by_cases h1 : fatal s op
  · exact ⟨[], by simp [add_fatal h1]⟩
  · cases hc : classify s op with
    | err => exact ⟨[], by simp [add_err h1 hc]⟩
    | hold => exact ⟨[], by rw [add_hold h1 hc]; cases s.fwd <;> rfl⟩
    | ok =>
      obtain ⟨script, s', o, hr, hq⟩ := cascade_exists _ (prog s op op.id).1 (Nat.le_refl _)
        (by rw [prog_pend]; exact Map.nodup_erase hn _)
      exact ⟨script, by simp [add_ok h1 hc, hr, hq]⟩

end Gribi.C02
