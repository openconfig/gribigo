/-
C03 — Referenced groups/next-hops cannot be deleted; unreferenced ones always can.

`Rib.Inv` (Lemmas/RefInv.lean) says: every reference counter equals the number of installed
referrers. It is proved here for every state reachable through any accepted history, and
the DELETE verdict is then characterised purely in terms of the installed entries.
-/
import Gribi.Lemmas.RefInv
import Gribi.Lemmas.RibStep
namespace Gribi.C03
open Gribi Rib

/-- goes with `Inv`: `inv_prog` asks that the instance of the operation exists, also of one a cascade fires -/
def PendNI (s : Rib) : Prop := ∀ id op, s.pend.get? id = some op → s.hasNI op.ni = true

theorem inv_of_same {s s' : Rib} (hi : Inv s) (h1 : s'.ents = s.ents) (h2 : s'.nhgRef = s.nhgRef)
    (h3 : s'.nhRef = s.nhRef) (h4 : ∀ {n}, s.hasNI n = true → s'.hasNI n = true) : Inv s' :=
  ⟨h1 ▸ hi.nodup, fun k p hg => (hi.wf k p (h1 ▸ hg)).imp h4 (h4 ∘ ·),
    fun ni g => by rw [h2, h1]; exact hi.nhg ni g, fun ni n => by rw [h3, h1]; exact hi.nh ni n⟩

theorem pendNI_prog {s : Rib} (hp : PendNI s) (op : Op) (id : Nat) : PendNI (prog s op id).1 := fun i x h =>
  ((prog_frame s op id).hasNI rfl _).trans (hp i x (Map.get?_erase_some (prog_pend .. ▸ h)).2)

theorem inv_cascade {s s' : Rib} {o : Out} (h : Cascade s s' o) (hi : Inv s) (hp : PendNI s) : Inv s' := by
  induction h with
  | done => exact hi
  | ok hg hc _ ih => exact ih (inv_prog hi hc (hp _ _ hg) _) (pendNI_prog hp _ _)
  | fail _ _ _ ih => exact ih (inv_of_same hi rfl rfl rfl fun h => h) fun i x h => hp i x (Map.get?_erase_some h).2

theorem inv_step {s s' : Rib} {i : Rib.In} {o : Out} (h : Step s i s' o) (hi : Inv s) (hp : PendNI s) :
    Inv s' ∧ PendNI s' := by
  refine ⟨?_, fun id x hg => h.grows.hasNI ((h.pend hg).elim (hp id x) fun ⟨_, _, _, hni, _⟩ => hni)⟩
  cases h with
  | add ha =>
    cases ha with
    | fatal | refused => exact hi
    | err | held => exact inv_of_same hi rfl rfl rfl fun h => h
    | ok hni hc hcas _ => exact inv_cascade hcas (inv_prog hi hc hni _) (pendNI_prog hp _ _)
  | del hd =>
    cases hd with
    | ok _ hg _ => exact inv_remove hi hg
    | _ => exact hi
  | flush nis => exact inv_flush hi nis
  | addNI ni =>
    exact inv_of_same hi (addNI_ents ..) (congrArg Rib.nhgRef (addNI_eq s ni) :) (congrArg Rib.nhRef (addNI_eq s ni) :)
      (addNI_hasNI · ni)
  | setHook => exact inv_of_same hi rfl rfl rfl fun h => h

theorem inv_run {s s' : Rib} {ins : List Rib.In} {outs : List Out}
    (h : run s ins = some (s', outs)) (hi : Inv s) (hp : PendNI s) : Inv s' ∧ PendNI s' :=
  run_invariant (P := fun s => Inv s ∧ PendNI s) (fun h hs => inv_step h hs.1 hs.2) h ⟨hi, hp⟩

theorem inv_add {s s' : Rib} {op : Op} {script : List CEv} {o : Out}
    (h : Rib.add s op script = some (s', o)) (hi : Inv s) (hp : PendNI s) : Inv s' ∧ PendNI s' :=
  inv_step (.add (script := script) (.of_add h)) hi hp

/-- **C03 (invariant).** After any accepted history from an empty RIB — adds, implicit and
explicit replaces that retarget references, deletes, partial and full flushes, cascades,
failed and held operations — every reference counter equals the number of installed
referrers. -/
theorem c03_refinv (d : NI) (f : Bool) {s' : Rib} {ins : List Rib.In} {outs : List Out}
    (h : run (Rib.new d f) ins = some (s', outs)) : Inv s' :=
  (inv_run h (inv_new d f) fun _ _ hg => nomatch hg).1

theorem del_fails_iff {s : Rib} {op : Op} (hv : delValid op = true) (hcls : op.cls = .wf) (hni : s.hasNI op.ni = true) :
    (Rib.del s op).2.fails = [op.id] ↔
      (s.ents.get? (op.ni, op.key)).isSome = true ∧ 0 < guardCnt s op.ni op.key := by
  suffices ∀ {s' o}, Deleted s op s' o → (o.fails = [op.id] ↔ _) from this (.of_del s op)
  intro s' o h
  cases h with
  | fatal h => exact (h.elim (fun h => nomatch hcls.symm.trans h) (· hni)).elim
  | invalid h => exact nomatch hv.symm.trans h
  | absent _ hg => rw [hg]; exact ⟨nofun, fun h => nomatch h.1⟩
  | refd _ hg h0 => rw [hg]; exact ⟨fun _ => ⟨rfl, h0⟩, fun _ => rfl⟩
  | ok _ _ h0 => rw [h0]; exact ⟨nofun, fun h => nomatch h.2⟩

/-- **C03 (verdict, groups).** A well-formed DELETE of group `g ≠ 0` in an existing instance
is answered FAILED exactly when the group is installed and some installed IPv4/IPv6/MPLS
entry of any instance points at it. The right-hand side mentions installed entries only. -/
theorem c03_verdict_nhg {s : Rib} (hi : Inv s) (op : Op) (g : Nat) (hk : op.key = .nhg g) (hg0 : g ≠ 0)
    (hcls : op.cls = .wf) (hni : s.hasNI op.ni = true) :
    (Rib.del s op).2.fails = [op.id] ↔
      ((s.ents.get? (op.ni, .nhg g)).isSome = true ∧
        ∃ k p, s.ents.get? k = some p ∧ k.2.isTop = true ∧ tgtNI k.1 p = op.ni ∧ p.grp = g) := by
  rw [del_fails_iff (by simp [delValid, hcls, hk, hg0]) hcls hni, hk]
  show _ ∧ 0 < cnt s.nhgRef (op.ni, g) ↔ _
  rw [hi.nhg, nhgReferrers, Map.countP_pos_iff hi.nodup]
  refine and_congr_right fun _ => exists_congr fun k => exists_congr fun p => and_congr_right fun _ => ?_
  rw [qNhg_iff (op.ni, g) k p, Prod.ext_iff]
  exact and_congr_right fun _ => and_congr eq_comm eq_comm

/-- **C03 (verdict, next-hops).** Likewise for next-hop `i ≠ 0`: FAILED exactly when it is
installed and some installed group of its instance contains it. -/
theorem c03_verdict_nh {s : Rib} (hi : Inv s) (op : Op) (i : Nat) (hk : op.key = .nh i) (hi0 : i ≠ 0)
    (hcls : op.cls = .wf) (hni : s.hasNI op.ni = true) :
    (Rib.del s op).2.fails = [op.id] ↔
      ((s.ents.get? (op.ni, .nh i)).isSome = true ∧
        ∃ k p, s.ents.get? k = some p ∧ isNhgKey k.2 = true ∧ k.1 = op.ni ∧ i ∈ p.nhs) := by
  rw [del_fails_iff (by simp [delValid, hcls, hk, hi0]) hcls hni, hk]
  show _ ∧ 0 < cnt s.nhRef (op.ni, i) ↔ _
  rw [hi.nh, nhReferrers, Map.countP_pos_iff hi.nodup]
  refine and_congr_right fun _ => exists_congr fun k => exists_congr fun p => and_congr_right fun _ => ?_
  rw [qNh_iff (op.ni, i) k p]
  exact and_congr_right fun _ => and_congr_left fun _ => eq_comm

/-- top-level entries can always be deleted (labels must fit the implementation's 32 bits) -/
theorem c03_top_always (s : Rib) (op : Op) (hT : op.key.isTop = true) (hcls : op.cls = .wf)
    (hni : s.hasNI op.ni = true) (hl : ∀ l, op.key = .mpls l → l ≤ maxLabel) :
    (Rib.del s op).2.fails = [] ∧ (Rib.del s op).2.oks = [op] := by
  have hv : delValid op = true := by
    rw [delValid, hcls]
    cases hk : op.key with
    | mpls l => exact decide_eq_true (hl l hk)
    | v4 _ | v6 _ => rfl
    | _ => rw [hk] at hT; cases hT
  have hg : guardCnt s op.ni op.key = 0 := by
    cases hk : op.key <;> first | rfl | (rw [hk] at hT; cases hT)
  suffices ∀ {s' o}, Deleted s op s' o → o.fails = [] ∧ o.oks = [op] from this (.of_del s op)
  intro s' o h
  cases h with
  | fatal h => exact (h.elim (fun h => nomatch hcls.symm.trans h) (· hni)).elim
  | invalid h => exact nomatch hv.symm.trans h
  | refd _ _ h0 => exact absurd (hg ▸ h0) (Nat.lt_irrefl 0)
  | absent | ok => exact ⟨rfl, rfl⟩

end Gribi.C03
