/-
C04 — Only the elected primary's correctly stamped operations change the RIB.

An AFT operation reaches the RIB only if it arrives on the session of the current primary and
carries an election id equal both to the id that session last announced and to the server's
current id (which, by C05, is the highest id learnt). Every other operation is answered FAILED
or ends that RPC, and leaves contents, held operations, counters and election state untouched.
-/
import Gribi.Lemmas.SrvStep
import Gribi.Lemmas.U128
namespace Gribi.C04
open Gribi Server

/-- **C04 (the gate).** `checkElectionForModify` lets an operation through exactly when the
sender is the primary and the stamp equals its last announced id and the current id. -/
theorem gate_proceed_iff (c : Nat) (oe : Option U128) (snap : ElecSnap) :
    gate c oe snap = .proceed ↔
      ∃ e, oe = some e ∧ snap.master = some c ∧ snap.cur = some e ∧ snap.clientLatest = some e := by
  constructor
  · -- in the order of the tests of `gate`, every row but the last answers something else
    fun_cases gate c oe snap <;> intro h <;> try cases h
    -- there the sender is the primary, the stamp is its last id, and neither of stamp and current id is lower
    cases Decidable.not_not.mp ‹¬c ≠ _›
    cases Decidable.not_not.mp ‹¬(_ : U128) ≠ _›
    cases (U128.not_lt_and_not_lt_iff _ _).mp ⟨Bool.eq_false_iff.mpr ‹_›, Bool.eq_false_iff.mpr ‹_›⟩
    exact ⟨_, rfl, ‹_›, ‹_›, ‹_›⟩
  · rintro ⟨e, rfl, hm, hc, hl⟩
    simp [gate, hm, hc, hl, U128.lt_irrefl]

/-- **C04 (a rejected operation changes nothing).** An operation that `checkElectionForModify` does not
let through leaves the RIB as it was, acknowledges nothing, and is answered FAILED or ends the RPC. -/
theorem c04_gate {r r' : Rib} {c : Nat} {fib : Bool} {snap : ElecSnap} {op : Op} {script : List Rib.CEv}
    {o : Rib.Out} {resp : Resp ⊕ Term} (hg : gate c op.elec snap ≠ .proceed)
    (h : modifyOne r c fib snap op script = some (r', o, resp)) :
    r' = r ∧ o.oks = [] ∧ (resp = .inl (.results [(op.id, .failed)]) ∨ ∃ t, resp = .inr t) := by
  rcases modifyOne_spec h with ⟨rfl, rfl, hres⟩ | ⟨hp, _⟩
  · exact ⟨rfl, rfl, hres⟩
  · exact absurd hp hg

/-- a whole request of rejected operations: the RIB is untouched and every response is a
single FAILED (or the RPC ended) -/
theorem c04_loop {r r' : Rib} {c : Nat} {fib : Bool} {snap : ElecSnap} {l : List (Op × List Rib.CEv)}
    {out : MsgOut} (hall : ∀ e ∈ l, gate c e.1.elec snap ≠ .proceed)
    (h : modifyLoop r c fib snap l = some (r', out)) :
    r' = r ∧ ∀ resp ∈ out.resps, ∃ id, resp = .results [(id, .failed)] := by
  replace h := modifyLoop_spec h
  induction h with
  | nil => exact ⟨rfl, by simp⟩
  | skip _ _ ih =>
    obtain ⟨rfl, hr⟩ := ih (fun e he => hall e (List.mem_cons_of_mem _ he))
    exact ⟨rfl, List.forall_mem_cons.mpr ⟨⟨_, rfl⟩, hr⟩⟩
  | stop _ h1 => exact ⟨(c04_gate (hall _ List.mem_cons_self) h1).1, by simp⟩
  | next h1 _ ih =>
    obtain ⟨rfl, _, hresp⟩ := c04_gate (hall _ List.mem_cons_self) h1
    obtain ⟨rfl, hr⟩ := ih (fun e he => hall e (List.mem_cons_of_mem _ he))
    refine ⟨rfl, List.forall_mem_cons.mpr ⟨?_, hr⟩⟩
    rcases hresp with h' | ⟨t, h'⟩ <;> cases h'
    exact ⟨_, rfl⟩

def IsPrimary (s : Server) (c : Nat) : Prop :=
  s.curMaster = some c ∧ ∃ e, s.curElec = some e ∧ (s.sess.get? c).bind (·.lastElec) = some e

theorem ops_all_gated {s s' : Server} {c : Nat} {cs : Sess} {l : List (Op × List Rib.CEv)} {out : MsgOut}
    (h : recv s c (.ops l) = some (s', out)) (hcs : s.sess.get? c = some cs)
    (hall : ∀ e ∈ l, gate c e.1.elec ⟨s.curMaster, s.curElec, cs.lastElec⟩ ≠ .proceed) :
    s'.rib = s.rib ∧ s'.curElec = s.curElec ∧ s'.curMaster = s.curMaster := by
  obtain ⟨cs', hcs', hr⟩ := recv_spec h
  cases hcs.symm.trans hcs'
  cases hr with
  | rejected => exact ⟨rfl, rfl, rfl⟩
  | ops l r' o hl => exact ⟨(finish_rib c _).trans (c04_loop hall hl).1, finish_reg c _⟩

/-- **C04 (only the primary).** Operations received on a session that is not the primary with
a matching last id — superseded, never elected, or holding a stale id — leave the RIB (contents,
held operations, counters) and the election state exactly as they were, whatever they are
stamped with. -/
theorem c04_not_primary {s s' : Server} {c : Nat} {l : List (Op × List Rib.CEv)} {out : MsgOut}
    (h : recv s c (.ops l) = some (s', out)) (hnp : ¬ IsPrimary s c) :
    s'.rib = s.rib ∧ s'.curElec = s.curElec ∧ s'.curMaster = s.curMaster := by
  obtain ⟨cs, hcs, _⟩ := recv_spec h
  refine ops_all_gated h hcs fun e _ hp => ?_
  obtain ⟨x, _, hm, hc, hl⟩ := (gate_proceed_iff c e.1.elec _).mp hp
  exact hnp ⟨hm, x, hc, by rw [hcs]; exact hl⟩

/-- **C04 (wrong stamp).** Even on the primary's session, a request whose operations all carry
an id different from the current one (stale, future, mismatching in either word, or none)
changes nothing. -/
theorem c04_wrong_stamp {s s' : Server} {c : Nat} {l : List (Op × List Rib.CEv)} {out : MsgOut}
    (h : recv s c (.ops l) = some (s', out)) (hst : ∀ e ∈ l, e.1.elec ≠ s.curElec ∨ s.curElec = none) :
    s'.rib = s.rib ∧ s'.curElec = s.curElec ∧ s'.curMaster = s.curMaster := by
  obtain ⟨cs, hcs, _⟩ := recv_spec h
  refine ops_all_gated h hcs fun e he hp => ?_
  obtain ⟨x, hx, _, hc, _⟩ := (gate_proceed_iff c e.1.elec _).mp hp
  rcases hst e he with h1 | h1
  · exact h1 (hx.trans hc.symm)
  · cases h1.symm.trans hc

/-- events other than operations and flushes never touch the RIB -/
theorem c04_other_events {s s' : Server} {ev : Ev} {out : EvOut} (h : step s ev = some (s', out))
    (hno : (∀ c l, ev ≠ .msg c (.ops l)) ∧ (∀ ni el, ev ≠ .flush ni el)) : s'.rib = s.rib := by
  cases step_spec h with
  | connect | close | get | flushRefused => rfl
  | flushAll el => exact absurd rfl (hno.2 _ el)
  | flushName n el => exact absurd rfl (hno.2 _ el)
  | msg c m cs s' o hcs hr => exact hr.rib_eq fun l hl => hno.1 c l (hl ▸ rfl)

/-- non-vacuity: a superseded primary's correctly self-stamped operation is rejected, the new
primary's is programmed -/
example :
    let nh : Op := { id := 1, ty := .add, ni := "D", key := .nh 1, pl := {}, elec := some ⟨0, 5⟩ }
    let nh2 : Op := { id := 2, ty := .add, ni := "D", key := .nh 2, pl := {}, elec := some ⟨0, 7⟩ }
    let evs : List Ev := [.connect 1, .msg 1 (.params 1 1 0), .msg 1 (.elec ⟨0, 5⟩),
      .connect 2, .msg 2 (.params 1 1 0), .msg 2 (.elec ⟨0, 7⟩),
      .msg 1 (.ops [(nh, [])]), .msg 2 (.ops [(nh2, [])])]
    (run (Server.new "D" []) evs).map (fun r => r.1.rib.ents.map (·.1)) = some [("D", Key.nh 2)] := by
  decide +kernel

end Gribi.C04
