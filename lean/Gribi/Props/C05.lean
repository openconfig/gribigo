/-
C05 — Primary = highest 128-bit election id; reported id is the running maximum.

* the comparison is the order of unsigned 128-bit integers, for all 2^256 pairs;
* after any history of events (announcements by any number of sessions interleaved with
  every other kind of event) the server's election id is the maximum of the accepted
  announcements, it never decreases, every election response carries it, and the primary is
  the last announcer of a running maximum; a lower announcement changes neither.
-/
import Gribi.Lemmas.SrvStep
import Gribi.Lemmas.U128
namespace Gribi.C05
open Gribi Server

/-- **C05 (comparison).** The candidate becomes primary iff it is not lower than the current
id, as unsigned 128-bit integers — for all pairs of ids. -/
theorem c05_cmp (c e : U128) : isNewMaster c (some e) = decide (e.toNat ≤ c.toNat) :=
  Bool.eq_iff_iff.mpr ((U128.le_iff e c).trans decide_eq_true_iff.symm)

/-- the comparison as upstream gribigo wrote it (`isNewMasterGo`, defect D1) is wrong: a witness -/
theorem c05_cmp_buggy_counterexample :
    isNewMasterGo ⟨1, 5⟩ (some ⟨2, 1⟩) = true ∧ ¬ ((⟨2, 1⟩ : U128).toNat ≤ (⟨1, 5⟩ : U128).toNat) := by
  decide

/-- value of the election register as a number (`none` = nothing learnt yet = 0) -/
def regNat : Option U128 → Nat
  | none => 0
  | some e => e.toNat

theorem isNewMaster_iff (e : U128) (cur : Option U128) : isNewMaster e cur = true ↔ regNat cur ≤ e.toNat := by
  cases cur with
  | none => exact iff_of_true rfl (Nat.zero_le _)
  | some x => exact U128.le_iff x e

/-- the accepted announcement of a step, if any: who announced what -/
def annOf : Ev → EvOut → Option (Nat × U128)
  | .msg c (.elec e), .msg _ o => if o.term.isNone then some (c, e) else none
  | _, _ => none

theorem drop_elec (s : Server) (c : Nat) : (s.drop c).curElec = s.curElec ∧ (s.drop c).curMaster = s.curMaster :=
  ⟨rfl, rfl⟩

theorem step_elec {s s' : Server} {ev : Ev} {out : EvOut} (h : step s ev = some (s', out)) :
    match annOf ev out with
    | some (c, e) =>
      ¬ e.isZero = true ∧
      (if isNewMaster e s.curElec then s'.curElec = some e ∧ s'.curMaster = some c
       else s'.curElec = s.curElec ∧ s'.curMaster = s.curMaster) ∧
      (∃ o, out = .msg c o ∧ o.resps = [.elec s'.curElec])
    | none => s'.curElec = s.curElec ∧ s'.curMaster = s.curMaster := by
  cases step_spec h with
  | msg c m cs s' o hcs hr =>
    cases hr with
    | rejected m t => cases m <;> exact ⟨rfl, rfl⟩
    | params => exact ⟨rfl, rfl⟩
    | elec e s' hx hz hrib hsess hreg => exact ⟨ne_true_of_eq_false hz, hreg, _, rfl, rfl⟩
    | ops => exact finish_reg c _
  | _ => exact ⟨rfl, rfl⟩

def upd (cur : Option U128) (e : U128) : Option U128 := if isNewMaster e cur then some e else cur

theorem regNat_upd (cur : Option U128) (e : U128) : regNat (upd cur e) = max (regNat cur) e.toNat := by
  unfold upd
  split
  · exact (Nat.max_eq_right ((isNewMaster_iff e cur).mp ‹_›)).symm
  · exact (Nat.max_eq_left (Nat.le_of_not_le (mt (isNewMaster_iff e cur).mpr ‹_›))).symm

def anns : List Ev → List EvOut → List (Nat × U128)
  | e :: es, o :: os => (match annOf e o with | some a => [a] | none => []) ++ anns es os
  | _, _ => []

theorem step_upd {s s' : Server} {ev : Ev} {out : EvOut} (h : step s ev = some (s', out)) :
    s'.curElec = match annOf ev out with
      | some a => upd s.curElec a.2
      | none => s.curElec := by
  have hs := step_elec h
  revert hs
  cases annOf ev out with
  | none => exact fun hs => hs.1
  | some a =>
    intro hs
    have key := hs.2.1
    show _ = if _ then _ else _
    split
    · rw [if_pos ‹_›] at key; exact key.1
    · rw [if_neg ‹_›] at key; exact key.1

/-- **C05 (running maximum).** After any history of events the election id is the fold of the
accepted announcements with "take the candidate if it is not lower". Hence its numeric value is the
maximum announced so far (`c05_value`), it never decreases (`c05_monotone`), and a lower
announcement leaves both the id and the primary unchanged (`c05_primary`). -/
theorem c05_max {s s' : Server} {evs : List Ev} {outs : List EvOut} (h : run s evs = some (s', outs)) :
    s'.curElec = (anns evs outs).foldl (fun cur a => upd cur a.2) s.curElec := by
  induction evs generalizing s outs with
  | nil => cases h; rfl
  | cons e rest ih =>
    obtain ⟨s1, o1, os, h1, h2, rfl⟩ := run_cons_eq_some h
    rw [ih h2, step_upd h1, anns, List.foldl_append]
    cases annOf e o1 <;> rfl

theorem c05_value {s s' : Server} {evs : List Ev} {outs : List EvOut} (h : run s evs = some (s', outs)) :
    regNat s'.curElec = ((anns evs outs).map (fun a => a.2.toNat)).foldl max (regNat s.curElec) := by
  rw [c05_max h, List.foldl_map]
  exact (List.foldl_hom regNat fun cur a => (regNat_upd cur a.2).symm).symm

theorem c05_monotone {s s' : Server} {ev : Ev} {out : EvOut} (h : step s ev = some (s', out)) :
    regNat s.curElec ≤ regNat s'.curElec := by
  rw [step_upd h]
  split
  · rw [regNat_upd]; exact Nat.le_max_left ..
  · exact Nat.le_refl _

/-- every election response carries the register's new value (the running maximum) -/
theorem c05_reply {s s' : Server} {ev : Ev} {out : EvOut} {c : Nat} {e : U128}
    (h : step s ev = some (s', out)) (ha : annOf ev out = some (c, e)) :
    ∃ o, out = .msg c o ∧ o.resps = [.elec s'.curElec] ∧ regNat s'.curElec = max (regNat s.curElec) e.toNat := by
  have hs := step_elec h
  have hu := step_upd h
  rw [ha] at hs hu
  obtain ⟨o, h1, h2⟩ := hs.2.2
  exact ⟨o, h1, h2, by rw [hu, regNat_upd]⟩

/-- a lower announcement never takes the primary role away, an announcement that is not lower
makes its session the primary -/
theorem c05_primary {s s' : Server} {ev : Ev} {out : EvOut} {c : Nat} {e : U128}
    (h : step s ev = some (s', out)) (ha : annOf ev out = some (c, e)) :
    (e.toNat < regNat s.curElec → s'.curMaster = s.curMaster ∧ s'.curElec = s.curElec) ∧
    (regNat s.curElec ≤ e.toNat → s'.curMaster = some c ∧ s'.curElec = some e) := by
  have hs := step_elec h
  rw [ha] at hs
  have key := hs.2.1
  by_cases hle : regNat s.curElec ≤ e.toNat
  · rw [if_pos ((isNewMaster_iff e _).mpr hle)] at key
    exact ⟨fun hlt => absurd hle (Nat.not_le_of_lt hlt), fun _ => key.symm⟩
  · rw [if_neg (mt (isNewMaster_iff e _).mp hle)] at key
    exact ⟨fun _ => key.symm, fun h => absurd h hle⟩

/-- non-vacuity: three sessions, ids spanning both words, a repeat, a decrease and a tie -/
example :
    let s0 := Server.new "D" []
    let evs : List Ev := [.connect 1, .msg 1 (.params 1 1 0), .connect 2, .msg 2 (.params 1 1 0),
      .connect 3, .msg 3 (.params 1 1 0),
      .msg 1 (.elec ⟨2, 1⟩), .msg 2 (.elec ⟨1, 5⟩), .msg 3 (.elec ⟨2, 1⟩), .msg 2 (.elec ⟨2, 2⟩), .msg 1 (.elec ⟨0, 9⟩)]
    (run s0 evs).map (fun r => (r.1.curElec, r.1.curMaster, anns evs r.2)) =
      some (some ⟨2, 2⟩, some 2, [(1, ⟨2, 1⟩), (2, ⟨1, 5⟩), (3, ⟨2, 1⟩), (2, ⟨2, 2⟩), (1, ⟨0, 9⟩)]) := by
  decide +kernel

end Gribi.C05
