/-
C06 — every operation is answered exactly once, to its sender only, RIB before FIB.

RIB level (`Rib.add`, `Rib.del`, the cascade): which ids an output answers, that an answered
operation is no longer held, that nothing is answered twice — within a step and over a whole
history of operations with fresh ids. Server level (`resultsOf`, `modifyOne`, `modifyLoop`): one
response per operation of a batch, the FIB acknowledgement right after the RIB acknowledgement
of the same id and only when negotiated, and the ids a response may carry: the operation's own
or those of operations that were held — which is exactly where the known finding D5 lives (held
operations have no owner, so the response of the session whose operation resolves them carries
their ids). "Exactly once" is proved as "at most once": that every operation is answered at all is
not a theorem (a held one may never be).
-/
import Gribi.Lemmas.SrvStep
import Gribi.Lemmas.RibStep
namespace Gribi.C06
open Gribi Rib

def PendKeyed (s : Rib) : Prop := ∀ id op, s.pend.get? id = some op → op.id = id

def answered (o : Out) : List Nat := o.oks.map (·.id) ++ o.fails

theorem answered_append (a b : Out) : answered (a.append b) = a.oks.map (·.id) ++ b.oks.map (·.id) ++ (a.fails ++ b.fails) := by
  simp [answered, Out.append]

theorem answered_perm (a b : Out) : (answered (a.append b)).Perm (answered a ++ answered b) := by
  simp only [answered, Out.append, List.map_append, List.append_assoc]
  exact (List.perm_append_comm_assoc ..).append_left _

theorem mem_answered_append (a b : Out) (id : Nat) : id ∈ answered (a.append b) ↔ id ∈ answered a ∨ id ∈ answered b :=
  (answered_perm a b).mem_iff.trans List.mem_append

structure Acct (s s' : Rib) (o : Out) (own : Option Nat) : Prop where
  nodup : (answered o).Nodup
  src : ∀ id ∈ answered o, some id = own ∨ s.pend.has id = true
  gone : ∀ id ∈ answered o, s'.pend.get? id = none
  held : ∀ id, s'.pend.has id = true → some id = own ∨ s.pend.has id = true
  keyed : PendKeyed s'

theorem Acct.silent {s s' : Rib} {o : Out} (hp : s'.pend = s.pend) (hk : PendKeyed s) (h : answered o = [])
    (own : Option Nat) : Acct s s' o own :=
  have hno : ∀ x, x ∉ answered o := fun x hx => by rw [h] at hx; cases hx
  ⟨h ▸ .nil, fun x hx => (hno x hx).elim, fun x hx => (hno x hx).elim, fun _ hx => .inr (hp ▸ hx),
    fun i x hx => hk i x (hp ▸ hx)⟩

theorem Acct.answer {s s' : Rib} {o : Out} {id : Nat} (hp : s'.pend = s.pend) (hk : PendKeyed s)
    (h : answered o = [id]) (hfresh : s.pend.get? id = none) : Acct s s' o (some id) :=
  have hid : ∀ x ∈ answered o, x = id := fun x hx => List.mem_singleton.mp (h ▸ hx)
  ⟨h ▸ List.nodup_cons.mpr ⟨nofun, .nil⟩, fun x hx => .inl (hid x hx ▸ rfl), fun x hx => hid x hx ▸ hp ▸ hfresh,
    fun _ hx => .inr (hp ▸ hx), fun i x hx => hk i x (hp ▸ hx)⟩

theorem Acct.cons {s s1 s' : Rib} {o1 o : Out} {id : Nat} {own : Option Nat} (h1 : answered o1 = [id])
    (hsrc : some id = own ∨ s.pend.has id = true) (hp : s1.pend = s.pend.erase id) (a : Acct s1 s' o none) :
    Acct s s' (o1.append o) own := by
  have hsub : ∀ x, s1.pend.has x = true → s.pend.has x = true ∧ x ≠ id := fun x hx => (Map.has_erase.mp (hp ▸ hx)).symm.imp_right Ne.symm
  -- what is held at the end or answered by the rest was held before and is not `id`: `id` is answered once
  have hnot : ∀ x, s'.pend.has x = true ∨ x ∈ answered o → s.pend.has x = true ∧ x ≠ id := fun x hx =>
    hsub x ((hx.elim (a.held x) (a.src x)).resolve_left nofun)
  have hmem : ∀ x, x ∈ answered (o1.append o) → x = id ∨ x ∈ answered o := fun x hx => by
    rwa [mem_answered_append, h1, List.mem_singleton] at hx
  refine ⟨(answered_perm o1 o).nodup_iff.mpr ?_, fun x hx => ?_, fun x hx => ?_, fun x hx => .inr (hnot x (.inl hx)).1, a.keyed⟩
  · rw [h1]
    exact List.nodup_cons.mpr ⟨fun h => (hnot id (.inr h)).2 rfl, a.nodup⟩
  · rcases hmem x hx with rfl | hx
    · exact hsrc
    · exact .inr (hnot x (.inr hx)).1
  · rcases hmem x hx with rfl | hx
    · exact Option.not_isSome_iff_eq_none.mp fun hg => (hnot x (.inl hg)).2 rfl
    · exact a.gone x hx

theorem keyed_erase {s s1 : Rib} {id : Nat} (hk : PendKeyed s) (hp : s1.pend = s.pend.erase id) : PendKeyed s1 :=
  fun i x hx => hk i x (Map.get?_erase_some (hp ▸ hx)).2

theorem runCascade_acct {s s' : Rib} {o : Out} (h : Cascade s s' o) (hk : PendKeyed s) : Acct s s' o none := by
  induction h with
  | done => exact .silent rfl hk rfl none
  | ok hg _ _ ih =>
    exact .cons (congrArg (· :: []) (hk _ _ hg)) (.inr (Map.has_of_get? hg)) (prog_pend ..)
      (ih (keyed_erase hk (prog_pend ..)))
  | fail hg _ _ ih =>
    exact .cons rfl (.inr (Map.has_of_get? hg)) rfl (ih (keyed_erase hk rfl))

theorem added_acct {s s' : Rib} {op : Op} {o : Out} (h : Added s op s' o) (hk : PendKeyed s)
    (hfresh : s.pend.get? op.id = none) : Acct s s' o (some op.id) := by
  cases h with
  | fatal => exact .silent rfl hk rfl _
  | err =>
    rw [← Out.append_nil (drop s op.id).2]
    exact .cons rfl (.inl rfl) rfl (.silent rfl (keyed_erase hk rfl) rfl none)
  | held =>
    refine ⟨.nil, nofun, nofun, fun id hid => ?_, fun i x hx => ?_⟩
    · obtain ⟨w, hw⟩ := Map.has_iff.mp hid
      exact (Map.get?_insert_some hw).imp (fun h => congrArg some h.1.symm) fun h => Map.has_of_get? h.2
    · exact (Map.get?_insert_some hx).elim (fun h => h.2 ▸ h.1) fun h => hk i x h.2
  | refused => exact .answer rfl hk rfl hfresh
  | ok _ _ hc _ =>
    exact .cons rfl (.inl rfl) (prog_pend ..) (runCascade_acct hc (keyed_erase hk (prog_pend ..)))

/-- **C06 (one ADD/REPLACE).** For an operation whose id is not currently held: nothing is
answered twice; only the operation itself and held operations are answered; whatever is answered
is no longer held; only the operation itself can become held. -/
theorem add_acct {s s' : Rib} {op : Op} {script : List CEv} {o : Out}
    (h : Rib.add s op script = some (s', o)) (hk : PendKeyed s) (hfresh : s.pend.get? op.id = none) :
    Acct s s' o (some op.id) :=
  added_acct (.of_add h) hk hfresh

theorem deleted_acct {s s' : Rib} {op : Op} {o : Out} (h : Deleted s op s' o) (hk : PendKeyed s)
    (hfresh : s.pend.get? op.id = none) : Acct s s' o (some op.id) := by
  cases h with
  | fatal => exact .silent rfl hk rfl _
  | ok => exact .answer (remove_frame ..).pend hk rfl hfresh
  | _ => exact .answer rfl hk rfl hfresh

/-- **C06 (one DELETE).** The same four facts for a DELETE whose id is not currently held. -/
theorem del_acct (s : Rib) (op : Op) (hk : PendKeyed s) (hfresh : s.pend.get? op.id = none) :
    Acct s (Rib.del s op).1 (Rib.del s op).2 (some op.id) :=
  deleted_acct (.of_del s op) hk hfresh

def submits : Rib.In → Option Nat
  | .add op _ => some op.id
  | .del op => some op.id
  | _ => none

theorem step_acct {s s' : Rib} {i : Rib.In} {o : Out} (h : Step s i s' o) (hk : PendKeyed s)
    (hfresh : ∀ id, submits i = some id → s.pend.get? id = none) : Acct s s' o (submits i) := by
  cases h with
  | add ha => exact added_acct ha hk (hfresh _ rfl)
  | del hd => exact deleted_acct hd hk (hfresh _ rfl)
  | flush nis => exact .silent (flush_pend s nis) hk rfl _
  | addNI ni => exact .silent (addNI_pend s ni) hk rfl _
  | setHook => exact .silent (s := s) (s' := s.setHook) rfl hk rfl _

def submitted (ins : List Rib.In) : List Nat := ins.filterMap submits

/-- the invariant of `c06_at_most_once`: `sub` the ids submitted so far, `ans` those answered so far -/
structure Hist (sub ans : List Nat) (s : Rib) : Prop where
  nodup : ans.Nodup
  ansSub : ∀ id ∈ ans, id ∈ sub
  heldSub : ∀ id, s.pend.has id = true → id ∈ sub
  disjoint : ∀ id ∈ ans, s.pend.get? id = none
  keyed : PendKeyed s

theorem hist_step {sub ans : List Nat} {s s' : Rib} {i : Rib.In} {o : Out}
    (hh : Hist sub ans s) (h : Rib.step s i = some (s', o))
    (hnew : ∀ id, submits i = some id → id ∉ sub) :
    Hist (sub ++ (submits i).toList) (ans ++ answered o) s' := by
  have a := step_acct (.of_step h) hh.keyed fun id hid =>
    Option.not_isSome_iff_eq_none.mp fun hg => hnew id hid (hh.heldSub id hg)
  -- the ids this step speaks of, the submitted one and those held before it, are submitted ...
  have hsub : ∀ id, some id = submits i ∨ s.pend.has id = true → id ∈ sub ++ (submits i).toList := fun id h =>
    List.mem_append.mpr (h.imp_left (· ▸ List.mem_singleton_self id) |>.symm.imp_left (hh.heldSub id))
  -- ... and have not been answered before
  have hnot : ∀ id ∈ ans, ¬ (some id = submits i ∨ s.pend.has id = true) := fun id hid h =>
    h.elim (fun e => hnew id e.symm (hh.ansSub id hid)) fun h => by rw [Map.has, hh.disjoint id hid] at h; cases h
  exact ⟨List.nodup_append.mpr ⟨hh.nodup, a.nodup, fun x hx y hy e => hnot x hx (e ▸ a.src y hy)⟩,
    fun id hid => (List.mem_append.mp hid).elim (fun h => List.mem_append_left _ (hh.ansSub id h)) fun h => hsub id (a.src id h),
    fun id hid => hsub id (a.held id hid),
    fun id hid => (List.mem_append.mp hid).elim
      (fun h => Option.not_isSome_iff_eq_none.mp fun hg => hnot id h (a.held id hg)) (a.gone id),
    a.keyed⟩

def answeredAll (outs : List Out) : List Nat := outs.flatMap answered

def FreshIds (ins : List Rib.In) : Prop := (submitted ins).Nodup

theorem hist_run {sub ans : List Nat} {s s' : Rib} {ins : List Rib.In} {outs : List Out}
    (hh : Hist sub ans s) (h : Rib.run s ins = some (s', outs))
    (hfresh : (sub ++ submitted ins).Nodup) :
    Hist (sub ++ submitted ins) (ans ++ answeredAll outs) s' := by
  induction ins generalizing sub ans s outs with
  | nil =>
    obtain ⟨rfl, rfl⟩ := run_nil.mp h
    rw [show submitted [] = [] from rfl, show answeredAll [] = [] from rfl, List.append_nil, List.append_nil]
    exact hh
  | cons i rest ih =>
    obtain ⟨s1, o, os, hs, hr, rfl⟩ := run_cons.mp h
    have hsplit : submitted (i :: rest) = (submits i).toList ++ submitted rest := by
      rw [submitted, List.filterMap_cons]; cases submits i <;> rfl
    rw [hsplit, ← List.append_assoc] at hfresh ⊢
    rw [show answeredAll (o :: os) = answered o ++ answeredAll os from List.flatMap_cons .., ← List.append_assoc]
    refine ih (hist_step hh hs fun id hid hin => ?_) hr hfresh
    exact (List.nodup_append.mp (List.nodup_append.mp hfresh).1).2.2 id hin id (hid ▸ List.mem_singleton_self id) rfl

/-- **C06 (at most once, all histories).** Starting from an empty RIB, for every history whose
operations carry pairwise distinct ids (and every cascade order the implementation may choose):
no id ever receives two verdicts — neither the same verdict twice nor a failure and a success —
every id that receives a verdict was submitted, and an operation that received its verdict is
not held any more. -/
theorem c06_at_most_once (d : NI) (f : Bool) {s' : Rib} {ins : List Rib.In} {outs : List Out}
    (h : Rib.run (Rib.new d f) ins = some (s', outs)) (hfresh : FreshIds ins) :
    (answeredAll outs).Nodup ∧ (∀ id ∈ answeredAll outs, id ∈ submitted ins) ∧
    (∀ id ∈ answeredAll outs, s'.pend.get? id = none) ∧ (∀ id, s'.pend.has id = true → id ∈ submitted ins) := by
  have h0 : Hist [] [] (Rib.new d f) := ⟨.nil, nofun, fun _ h => Bool.noConfusion h, nofun, fun _ _ h => nomatch h⟩
  have := hist_run h0 h ((List.nil_append _).symm ▸ hfresh)
  rw [List.nil_append, List.nil_append] at this
  exact ⟨this.nodup, this.ansSub, this.disjoint, this.heldSub⟩

open Server in
def RibThenFib (l : List (Nat × AftStatus)) : Prop :=
  ∀ (pre suf : List (Nat × AftStatus)) (id : Nat), l = pre ++ (id, AftStatus.fib) :: suf →
    ∃ pre', pre = pre' ++ [(id, AftStatus.rib)]

open Server in
theorem RibThenFib.of_no_fib {l : List (Nat × AftStatus)} (h : ∀ x ∈ l, x.2 ≠ .fib) : RibThenFib l :=
  fun _ _ id e => absurd rfl (h (id, .fib) (e ▸ List.mem_append_right _ List.mem_cons_self))

open Server in
theorem RibThenFib.pair (i : Nat) {l : List (Nat × AftStatus)} (h : RibThenFib l) :
    RibThenFib ((i, .rib) :: (i, .fib) :: l) := by
  intro pre suf id e
  match pre, e with
  | [], e => cases e
  | [_], e => cases e; exact ⟨[], rfl⟩
  | p :: p' :: pre', e =>
    obtain ⟨q, rfl⟩ := h pre' suf id (List.cons.inj (List.cons.inj e).2).2
    exact ⟨p :: p' :: q, rfl⟩

open Server in
/-- **C06 (RIB before FIB).** In the results built for one operation's outcome, a FIB
acknowledgement appears only when FIB acknowledgement was negotiated, and then immediately after
the RIB acknowledgement of the same id. -/
theorem c06_rib_then_fib (fib : Bool) (o : Out) :
    (fib = false → ∀ x ∈ resultsOf fib o, x.2 ≠ AftStatus.fib) ∧
    (∀ (pre suf : List (Nat × AftStatus)) (id : Nat), resultsOf fib o = pre ++ (id, AftStatus.fib) :: suf →
      ∃ pre', pre = pre' ++ [(id, AftStatus.rib)]) := by
  have hfails : ∀ x ∈ o.fails.map fun id => (id, AftStatus.failed), x.2 ≠ .fib := fun x hx => by
    obtain ⟨_, _, rfl⟩ := List.mem_map.mp hx; nofun
  have hno : fib = false → ∀ x ∈ resultsOf fib o, x.2 ≠ AftStatus.fib := by
    rintro rfl x hx
    rcases List.mem_append.mp hx with h | h
    · obtain ⟨_, _, h⟩ := List.mem_flatMap.mp h
      cases List.mem_singleton.mp h; nofun
    · exact hfails x h
  refine ⟨hno, ?_⟩
  show RibThenFib (resultsOf fib o)
  cases fib
  · exact .of_no_fib (hno rfl)
  · -- one block per acknowledged operation, then the failures
    unfold resultsOf
    induction o.oks with
    | nil => exact .of_no_fib hfails
    | cons op rest ih => rw [List.flatMap_cons, List.append_assoc]; exact .pair op.id ih

open Server in
/-- **C06 (one response per operation).** A batch that does not end the RPC is answered with
exactly one response per operation, in order. -/
theorem c06_one_response_per_op (c : Nat) (fib : Bool) (snap : ElecSnap)
    (l : List (Op × List Rib.CEv)) (r : Rib) {r' : Rib} {o : MsgOut}
    (h : modifyLoop r c fib snap l = some (r', o)) (hopen : o.term = none) : o.resps.length = l.length := by
  replace h := modifyLoop_spec h
  induction h with
  | nil => rfl
  | skip _ _ ih => exact congrArg (· + 1) (ih hopen)
  | stop => cases hopen
  | next _ _ ih => exact congrArg (· + 1) (ih hopen)

open Server in
theorem mem_resultsOf {fib : Bool} {o : Out} {x : Nat × AftStatus} (h : x ∈ resultsOf fib o) : x.1 ∈ answered o := by
  simp only [resultsOf, List.mem_append, List.mem_flatMap, List.mem_map] at h
  simp only [answered, List.mem_append, List.mem_map]
  rcases h with ⟨op, hop, hx⟩ | ⟨id, hid, hx⟩
  · left
    refine ⟨op, hop, ?_⟩
    split at hx
    · simp only [List.mem_cons, List.not_mem_nil, or_false] at hx
      rcases hx with rfl | rfl <;> rfl
    · simp only [List.mem_singleton] at hx; rw [hx]
  · right; rw [← hx]; exact hid

open Server in
/-- **C06 (whose results a response carries).** The response to one operation carries results
only for that operation's own id and for ids of operations that were held when it arrived. With
held operations keyed by id and no owner, the second kind may have been sent by another session:
that is the known finding D5, and the only way a foreign id can appear. -/
theorem c06_results_src (r : Rib) (c : Nat) (fib : Bool) (snap : ElecSnap) (op : Op) (script : List Rib.CEv)
    {r' : Rib} {ro : Out} {rs : List (Nat × AftStatus)}
    (h : modifyOne r c fib snap op script = some (r', ro, .inl (.results rs)))
    (hk : PendKeyed r) (hfresh : r.pend.get? op.id = none) :
    ∀ x ∈ rs, x.1 = op.id ∨ r.pend.has x.1 = true := by
  intro x hx
  rcases modifyOne_spec h with ⟨_, _, hres | ⟨_, hres⟩⟩ | ⟨_, i, hi, hs, hres⟩
  · cases hres; exact .inl (by rw [List.mem_singleton.mp hx])
  · cases hres
  · -- one RIB step submitting `op.id`: the accounting of that step
    have hsub : submits i = some op.id := by rcases hi with ⟨rfl, _⟩ | ⟨rfl, _⟩ <;> rfl
    have a := step_acct (.of_step hs) hk (fun id hid => by cases hsub.symm.trans hid; exact hfresh)
    split at hres
    · cases hres
    · cases hres
      exact (a.src x.1 (mem_resultsOf hx)).imp (fun h' => Option.some.inj (h'.trans hsub)) id

end Gribi.C06
