/-
C07 — Get returns exactly the installed entries, payload-faithful, correctly filtered.

Proved on the model: scope exactness, Get(ALL) = disjoint union of the per-table Gets, empty
scope ⇒ empty OK stream, payload = what is installed (= what was last programmed, by C01), and
rebuilding a RIB from the responses for an instance reproduces that instance's contents. Field-level fidelity of the
proto → YANG → proto conversion is NOT a theorem: the model stores payloads as opaque values,
and the correspondence compares every returned payload, field by field, with what was last
programmed (translation validation; see DESIGN.md C07).
-/
import Gribi.Model.Server
namespace Gribi.C07
open Gribi Rib Server

/-- **C07 (exactness, one instance).** An entry is returned for `(ni, sel)` iff it is an
installed binding of that instance whose table the selection matches — nothing else, and with
the installed payload. -/
theorem c07_exact (s : Rib) (ni : NI) (sel : AftSel) (e : EKey × Payload) :
    e ∈ s.getNI ni sel ↔ (e ∈ s.ents ∧ e.1.1 = ni ∧ sel.matches e.1.2 = true) := by
  unfold getNI
  simp [List.mem_filter]

/-- no key is returned twice (the installed map has distinct keys) -/
theorem c07_nodup (s : Rib) (hn : Map.NoDupKeys s.ents) (ni : NI) (sel : AftSel) :
    Map.NoDupKeys (s.getNI ni sel) := Map.nodup_filter hn _

/-- the payload returned for a key is the installed one -/
theorem c07_payload (s : Rib) (hn : Map.NoDupKeys s.ents) (ni : NI) (sel : AftSel) (k : EKey) (p : Payload)
    (h : (k, p) ∈ s.getNI ni sel) : s.ents.get? k = some p :=
  Map.get?_of_mem_nodup hn ((c07_exact s ni sel (k, p)).mp h).1

theorem matches_of_ne_all {a : AftSel} (ha : a ≠ .all) (k : Key) :
    a.matches k = true ↔
      a = (match k with | .v4 _ => .v4 | .v6 _ => .v6 | .mpls _ => .mpls | .nhg _ => .nhg | .nh _ => .nh) := by
  cases a
  · exact absurd rfl ha
  all_goals cases k <;> simp [AftSel.matches]

/-- **C07 (ALL is the union of the per-table Gets).** They are disjoint by `c07_tables_disjoint`. -/
theorem c07_all_is_union (s : Rib) (ni : NI) (e : EKey × Payload) :
    e ∈ s.getNI ni .all ↔
      (e ∈ s.getNI ni .v4 ∨ e ∈ s.getNI ni .v6 ∨ e ∈ s.getNI ni .mpls ∨ e ∈ s.getNI ni .nhg ∨ e ∈ s.getNI ni .nh) := by
  -- the key lies in one of the five tables: evaluate the six selections on it
  obtain ⟨⟨n, k⟩, p⟩ := e
  cases k <;> simp [c07_exact, AftSel.matches]

theorem c07_tables_disjoint (s : Rib) (ni : NI) (a b : AftSel) (ha : a ≠ .all) (hb : b ≠ .all) (hab : a ≠ b)
    (e : EKey × Payload) (h : e ∈ s.getNI ni a) : e ∉ s.getNI ni b := fun h' =>
  -- both are the table of the key
  hab (((matches_of_ne_all ha _).mp ((c07_exact s ni a e).mp h).2.2).trans
    ((matches_of_ne_all hb _).mp ((c07_exact s ni b e).mp h').2.2).symm)

/-- **C07 (empty scope).** A Get of an existing instance with nothing installed in the selected
table is an OK stream with no entry -/
theorem c07_empty_ok (s : Server) (n : NI) (a : AftSel) (hn : n ≠ "") (hk : s.rib.hasNI n = true)
    (he : ∀ e ∈ s.rib.ents, ¬ (e.1.1 = n ∧ a.matches e.1.2 = true)) :
    s.get (.name n) (.sel a) = some [] := by
  unfold Server.get
  simp only [hn, if_false, hk, if_true]
  congr
  exact List.eq_nil_iff_forall_not_mem.mpr fun e hm => he e ((c07_exact ..).mp hm).1 ((c07_exact ..).mp hm).2

/-- **C07 (server request validation).** `Server.Get` ends with an error for an AFT type it does not
implement, for the empty instance name and for an unknown instance; otherwise it streams `getNI` of the
named instance, or of every instance in turn for ALL. -/
theorem c07_requests (s : Server) :
    (∀ ni, s.get ni .other = none) ∧
    (∀ a, s.get (.name "") (.sel a) = none) ∧
    (∀ n a, s.rib.hasNI n = false → s.get (.name n) (.sel a) = none) ∧
    (∀ n a, n ≠ "" → s.rib.hasNI n = true → s.get (.name n) (.sel a) = some (s.rib.getNI n a)) ∧
    (∀ a, s.get .all (.sel a) = some (s.rib.nis.flatMap (fun n => s.rib.getNI n a))) := by
  refine ⟨?_, ?_, ?_, ?_, ?_⟩
  · intro ni; rfl
  · intro a; simp [Server.get]
  · intro n a h
    unfold Server.get
    by_cases hn : n = "" <;> simp [hn, h]
  · intro n a hn hk; simp [Server.get, hn, hk]
  · intro a; rfl

/-- `rib.FromGetResponses`: rebuild contents from a response stream -/
def fromGet (l : List (EKey × Payload)) : Map EKey Payload :=
  l.foldl (fun m e => m.insert e.1 e.2) []

theorem getNI_get? (s : Rib) (ni : NI) (sel : AftSel) (k : EKey) :
    Map.get? (s.getNI ni sel) k = if k.1 == ni && sel.matches k.2 then s.ents.get? k else none := by
  have : s.getNI ni sel = s.ents.eraseP fun k => !(k.1 == ni && sel.matches k.2) :=
    List.filter_congr fun _ _ => (Bool.not_not _).symm
  rw [this, Map.get?_eraseP]
  cases k.1 == ni && sel.matches k.2 <;> rfl

theorem fromGet_get? (l : List (EKey × Payload)) (hn : Map.NoDupKeys l) (k : EKey) :
    (fromGet l).get? k = Map.get? l k := by
  have key : ∀ m0 : Map EKey Payload, (l.foldl (fun m e => m.insert e.1 e.2) m0).get? k = (Map.get? l k).or (m0.get? k) := by
    induction l with
    | nil => exact fun _ => rfl
    | cons e t ih =>
      intro m0
      have hn' := List.nodup_cons.mp hn
      rw [List.foldl_cons, ih hn'.2, Map.get?_insert, Map.get?_cons]
      split
      · rw [Map.get?_eq_none.mpr (‹e.1 = k› ▸ hn'.1)]; rfl
      · rfl
  rw [fromGet, key, Map.get?_nil, Option.or_none]

/-- **C07 (round trip, one instance).** Rebuilding from `Get(ni, ALL)` reproduces the contents
of instance `ni` and nothing else, given the installed keys are distinct. -/
theorem c07_roundtrip_one (s : Rib) (hn : Map.NoDupKeys s.ents) (ni : NI) (k : EKey) :
    (fromGet (s.getNI ni .all)).get? k = if k.1 = ni then s.ents.get? k else none := by
  rw [fromGet_get? _ (c07_nodup s hn ni .all), getNI_get?]
  simp [AftSel.matches]

def exRib : Rib :=
  { dflt := "D"
    nis := ["D", "V"]
    ents := [(("D", Key.nh 1), ({} : Payload)), (("D", Key.nhg 1), ({ nhs := [1] } : Payload)),
             (("V", Key.v4 "1.0.0.0/8"), ({ grp := 1, grpNI := "D" } : Payload)),
             (("V", Key.mpls 100), ({ grp := 1, grpNI := "D" } : Payload))] }

/-- non-vacuity: a two-instance RIB, several (instance, table) combinations -/
example :
    ((exRib.getNI "D" .all).length, (exRib.getNI "V" .all).length, (exRib.getNI "V" .v4).length,
      (exRib.getNI "V" .v6).length, (exRib.getNI "D" .nhg).map (·.1.2)) = (2, 2, 1, 0, [Key.nhg 1]) := by
  decide +kernel

end Gribi.C07
