/-
C08 — Flush empties exactly the requested instances, reports OK, is election-gated.
-/
import Gribi.Lemmas.U128
import Gribi.Lemmas.RefInv
import Gribi.Lemmas.RibStep
namespace Gribi.C08
open Gribi Server

/-- **C08 (decision table).** A Flush is authorised exactly when it names an instance (or all)
and either overrides the election, or no election has ever taken place and it carries no id,
or it carries a non-zero id that is not lower (as a 128-bit integer) than the current one. -/
theorem c08_table (cur : Option U128) (ni : NiSel) (el : FlushElec) :
    checkFlush cur ni el = none ↔
      (ni ≠ .unset ∧
        (el = .override ∨ (el = .unset ∧ cur = none) ∨
          ∃ e c, el = .id e ∧ cur = some c ∧ e.isZero = false ∧ c.toNat ≤ e.toNat)) := by
  -- in the order of `checkFlush`'s tests (the instance, the kind of election choice, the register, the zero id, the
  -- comparison): a refusal is the failure of every disjunct
  fun_cases checkFlush cur ni el
  · exact iff_of_false nofun fun h => h.1 ‹_›
  · exact iff_of_true rfl ⟨‹_›, .inl rfl⟩
  · exact iff_of_true rfl ⟨‹_›, .inr (.inl ⟨rfl, Option.isNone_iff_eq_none.mp ‹_›⟩)⟩
  · refine iff_of_false nofun ?_
    rintro ⟨_, h | ⟨_, rfl⟩ | ⟨_, _, h, _⟩⟩
    · cases h
    · exact ‹¬_› rfl
    · cases h
  · refine iff_of_false nofun ?_
    rintro ⟨_, h | ⟨h, _⟩ | ⟨_, _, _, h, _⟩⟩ <;> cases h
  · refine iff_of_false nofun ?_
    rintro ⟨_, h | ⟨h, _⟩ | ⟨_, _, h, _, hz, _⟩⟩ <;> cases h
    exact Bool.false_ne_true (hz.symm.trans ‹_›)
  · refine iff_of_false nofun ?_
    rintro ⟨_, h | ⟨h, _⟩ | ⟨_, _, h, h', _, hle⟩⟩ <;> cases h
    cases h'
    exact Nat.not_lt_of_le hle ((U128.lt_iff _ _).mp ‹_›)
  · exact iff_of_true rfl ⟨‹_›, .inr (.inr ⟨_, _, rfl, rfl, Bool.eq_false_iff.mpr ‹_›,
      Nat.le_of_not_lt (mt (U128.lt_iff _ _).mpr ‹_›)⟩)⟩

/-- the status of every rejected cell of the table -/
theorem c08_rejections (cur : Option U128) (ni : NiSel) (el : FlushElec) :
    (ni = .unset → checkFlush cur ni el = some ⟨.invalidArgument, .unspecifiedNI⟩) ∧
    (ni ≠ .unset → el = .unset → cur ≠ none →
      checkFlush cur ni el = some ⟨.failedPrecondition, .unspecifiedElection⟩) ∧
    (ni ≠ .unset → ∀ e, el = .id e → cur = none →
      checkFlush cur ni el = some ⟨.failedPrecondition, .elecInAllPrimary⟩) ∧
    (ni ≠ .unset → ∀ e c, el = .id e → cur = some c → e.isZero = true →
      checkFlush cur ni el = some ⟨.invalidArgument, .invalidElec⟩) ∧
    (ni ≠ .unset → ∀ e c, el = .id e → cur = some c → e.isZero = false → e.toNat < c.toNat →
      checkFlush cur ni el = some ⟨.failedPrecondition, .notPrimary⟩) := by
  refine ⟨?_, ?_, ?_, ?_, ?_⟩
  · intro h; simp [checkFlush, h]
  · intro h1 h2 h3
    cases cur with
    | none => exact absurd rfl h3
    | some c => simp [checkFlush, h1, h2]
  · intro h1 e h2 h3; simp [checkFlush, h1, h2, h3]
  · intro h1 e c h2 h3 h4; simp [checkFlush, h1, h2, h3, h4]
  · intro h1 e c h2 h3 h4 h5
    have := (U128.lt_iff e c).mpr h5
    simp [checkFlush, h1, h2, h3, h4, this]

/-- **C08 (rejected ⇒ nothing changes).** A Flush that `checkFlushRequest` refuses is answered with that
refusal, leaves the server as it was and notifies nothing. -/
theorem c08_reject_noop (s : Server) (ni : NiSel) (el : FlushElec) (r : FlushRes)
    (h : checkFlush s.curElec ni el = some r) : s.flush ni el = (s, r, []) := by
  unfold Server.flush
  rw [h]

/-- an unknown (or empty) instance name is rejected and nothing changes -/
theorem c08_unknown_ni (s : Server) (n : NI) (el : FlushElec) (ha : checkFlush s.curElec (.name n) el = none)
    (hn : s.rib.hasNI n = false) : s.flush (.name n) el = (s, ⟨.invalidArgument, .invalidNI⟩, []) := by
  unfold Server.flush
  rw [ha]
  simp [hn]

/-- **C08 (effect, one instance).** An authorised Flush of an existing instance `n` answers OK,
leaves no entry in `n`, leaves every entry of every other instance as it was, and leaves held
operations, sessions and election state untouched. -/
theorem c08_effect_name (s : Server) (n : NI) (el : FlushElec) (ha : checkFlush s.curElec (.name n) el = none)
    (hn : s.rib.hasNI n = true) :
    (s.flush (.name n) el).2.1 = ⟨.ok, .none⟩ ∧
    (∀ k, (s.flush (.name n) el).1.rib.ents.get? k = if k.1 = n then none else s.rib.ents.get? k) ∧
    (s.flush (.name n) el).1.rib.pend = s.rib.pend ∧
    (s.flush (.name n) el).1.sess = s.sess ∧
    (s.flush (.name n) el).1.curElec = s.curElec ∧ (s.flush (.name n) el).1.curMaster = s.curMaster := by
  unfold Server.flush
  rw [ha]
  simp only [hn, if_true]
  refine ⟨trivial, fun k => ?_, Rib.flush_pend .., trivial, trivial, trivial⟩
  show (s.rib.flush [n]).1.ents.get? k = _
  rw [Rib.flush_ents, Map.get?_eraseP]
  by_cases hk : k.1 = n <;> simp [hk]

/-- **C08 (effect, all instances).** An authorised Flush of all instances answers OK and leaves
nothing installed (every entry lives in a known instance: `Inv.wf`). -/
theorem c08_effect_all (s : Server) (el : FlushElec) (ha : checkFlush s.curElec .all el = none)
    (hi : Rib.Inv s.rib) :
    (s.flush .all el).2.1 = ⟨.ok, .none⟩ ∧
    (∀ k, (s.flush .all el).1.rib.ents.get? k = none) ∧
    (s.flush .all el).1.rib.pend = s.rib.pend ∧
    (s.flush .all el).1.curElec = s.curElec := by
  unfold Server.flush
  rw [ha]
  simp only
  refine ⟨trivial, fun k => ?_, Rib.flush_pend .., trivial⟩
  show (s.rib.flush s.rib.nis).1.ents.get? k = _
  rw [Rib.flush_ents, Map.get?_eraseP]
  split
  · rfl
  · cases hg : s.rib.ents.get? k with
    | none => rfl
    | some p => exact absurd (hi.wf k p hg).1 ‹_›

/-- **C08 (deletion protection stays consistent).** Whatever a Flush does, every reference
counter still equals the number of installed referrers afterwards. -/
theorem c08_refinv (s : Server) (ni : NiSel) (el : FlushElec) (hi : Rib.Inv s.rib) :
    Rib.Inv (s.flush ni el).1.rib := by
  unfold Server.flush
  split
  · exact hi
  · split
    · exact hi
    · exact Rib.inv_flush hi _
    · split
      · exact Rib.inv_flush hi _
      · exact hi

/-- non-vacuity: the table on ids that differ only in the high word -/
example : checkFlush (some ⟨2, 1⟩) .all (.id ⟨1, 5⟩) = some ⟨.failedPrecondition, .notPrimary⟩ ∧
    checkFlush (some ⟨2, 1⟩) .all (.id ⟨2, 1⟩) = none ∧
    checkFlush (some ⟨2, 1⟩) .all (.id ⟨3, 0⟩) = none ∧
    checkFlush none .all .unset = none ∧
    checkFlush (some ⟨0, 1⟩) (.name "X") .unset = some ⟨.failedPrecondition, .unspecifiedElection⟩ := by decide

end Gribi.C08
