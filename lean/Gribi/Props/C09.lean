/-
C09 — Session negotiation / protocol violations: specified status, no side effects.
-/
import Gribi.Lemmas.SrvStep
namespace Gribi.C09
open Gribi Server

/-- **C09 (acceptance).** Session parameters are accepted iff they are the first message, were
not set before, name SINGLE_PRIMARY (1) with PRESERVE (1) — either acknowledgement type — and
equal the parameters of every other live session (a session that has connected but not yet
negotiated counts with its default parameters, as in the code). -/
theorem c09_params_accept_iff (s : Server) (c : Nat) (cs : Sess) (red pers ack : Nat) :
    (doParams s c cs red pers ack).2.term = none ↔
      (cs.gotMsg = false ∧ red = 1 ∧ pers = 1 ∧ cs.setParams = false ∧
        ∀ e ∈ s.sess, e.1 = c ∨ e.2.params = paramsOf red pers ack) := by
  have hall : (s.sess.all fun e => e.1 == c || e.2.params == paramsOf red pers ack) = true ↔
      ∀ e ∈ s.sess, e.1 = c ∨ e.2.params = paramsOf red pers ack := by
    simp only [List.all_eq_true, Bool.or_eq_true, beq_iff_eq]
  -- in the order of the tests of `doParams`: each refusal is the failure of one conjunct
  fun_cases doParams s c cs red pers ack
  · exact iff_of_false nofun fun h => by simp [h.1] at ‹cs.gotMsg = true›
  · exact iff_of_false nofun fun h => by simp [h.2.1] at ‹(red == 0 && _) = true›
  · exact iff_of_false nofun fun h => by simp [h.2.1] at ‹(red != 1) = true›
  · exact iff_of_false nofun fun h => by simp [h.2.2.1] at ‹(pers != 1) = true›
  · exact iff_of_false nofun fun h => by simp [h.2.2.2.1] at ‹cs.setParams = true›
  · exact iff_of_true rfl ⟨by simpa using ‹¬cs.gotMsg = true›, by simpa using ‹¬(red != 1) = true›,
      by simpa using ‹¬(pers != 1) = true›, by simpa using ‹¬cs.setParams = true›, hall.mp ‹_›⟩
  · exact iff_of_false nofun fun h => ‹¬_› (hall.mpr h.2.2.2.2)

/-- **C09 (status of each violation).** -/
theorem c09_codes (s : Server) (c : Nat) (cs : Sess) (hcs : s.sess.get? c = some cs) :
    -- more than one of params / election id / operations
    ((recv s c .multi).map (·.2.term) = some (some ⟨.invalidArgument, .none⟩)) ∧
    -- a message with no field
    ((recv s c .empty).map (·.2.term) = some (some ⟨.unimplemented, .none⟩)) ∧
    -- parameters after another message
    (cs.gotMsg = true → ∀ a b d, (recv s c (.params a b d)).map (·.2.term) = some (some ⟨.failedPrecondition, .modifyNotAllowed⟩)) ∧
    -- ALL_PRIMARY with PRESERVE; other unsupported modes
    (cs.gotMsg = false → ∀ d, (recv s c (.params 0 1 d)).map (·.2.term) = some (some ⟨.failedPrecondition, .unsupportedParams⟩)) ∧
    (cs.gotMsg = false → ∀ a b d, ¬ (a = 0 ∧ b = 1) → (a ≠ 1 ∨ b ≠ 1) →
      (recv s c (.params a b d)).map (·.2.term) = some (some ⟨.unimplemented, .unsupportedParams⟩)) ∧
    -- parameters that differ from another live session's
    (cs.gotMsg = false → ∀ d, (∃ e ∈ s.sess, e.1 ≠ c ∧ e.2.params ≠ paramsOf 1 1 d) →
      (recv s c (.params 1 1 d)).map (·.2.term) = some (some ⟨.failedPrecondition, .paramsDiffer⟩)) ∧
    -- an election id from a session that has not negotiated SINGLE_PRIMARY
    (cs.params.expectElec = false → ∀ e, (recv s c (.elec e)).map (·.2.term) = some (some ⟨.failedPrecondition, .elecInAllPrimary⟩)) ∧
    -- a zero election id
    (cs.params.expectElec = true → ∀ e, e.isZero = true → (recv s c (.elec e)).map (·.2.term) = some (some ⟨.invalidArgument, .none⟩)) ∧
    -- operations from a session that has not negotiated SINGLE_PRIMARY / PRESERVE
    ((cs.params.expectElec = false ∨ cs.params.persist = false) → ∀ l, (∀ e ∈ l, e.2 = []) →
      (recv s c (.ops l)).map (·.2.term) = some (some ⟨.unimplemented, .unsupportedParams⟩)) := by
  -- the status of a parameters / election message is that of `doParams` / `doElec`
  have hpar : ∀ a b d, (recv s c (.params a b d)).map (·.2.term) = some (doParams s c cs a b d).2.term :=
    fun a b d => by simp only [recv, hcs, Option.map_some, finish_snd]
  have hel : ∀ e, (recv s c (.elec e)).map (·.2.term) = some (doElec s c cs e).2.term :=
    fun e => by simp only [recv, hcs, Option.map_some, finish_snd]
  refine ⟨?_, ?_, ?_, ?_, ?_, ?_, ?_, ?_, ?_⟩
  · simp only [recv, hcs, Option.map_some]
  · simp only [recv, hcs, Option.map_some]
  · intro h a b d
    rw [hpar, doParams, if_pos h]
  · intro h d
    rw [hpar, doParams, if_neg (by simp [h]), if_pos (by decide)]
  · intro h a b d hn hor
    rw [hpar, doParams, if_neg (by simp [h]), if_neg (by simpa using hn)]
    by_cases ha : a = 1
    · subst ha; rw [if_neg (by decide), if_pos (by simpa using hor)]
    · rw [if_pos (by simpa using ha)]
  · intro h d ⟨e, he, hne, hp⟩
    rw [hpar, doParams, if_neg (by simp [h]), if_neg (by decide), if_neg (by decide), if_neg (by decide)]
    rw [if_neg fun hall => by simpa [hne, hp] using List.all_eq_true.mp hall e he]
  · intro h e
    rw [hel, doElec, if_pos (by simp [h])]
  · intro h e hz
    rw [hel, doElec, if_neg (by simp [h]), if_pos hz]
  · intro h l hl
    have hb : (!cs.params.expectElec || !cs.params.persist) = true := by
      rcases h with h | h <;> simp [h]
    have hs : l.all (fun e => e.2 == []) = true := by
      rw [List.all_eq_true]; intro e he; simp [hl e he]
    simp only [recv, hcs, doOps, hb, if_true, hs, Option.map_some, finish_snd]

/-- other sessions are never touched by a message on session `c` -/
theorem c09_others_untouched {s s' : Server} {c : Nat} {m : Msg} {o : MsgOut}
    (h : recv s c m = some (s', o)) (c' : Nat) (hne : c' ≠ c) : s'.sess.get? c' = s.sess.get? c' :=
  let ⟨_, _, hr⟩ := recv_spec h
  hr.sess_ne hne

/-- **C09 (no side effects, footprint removed).** A message that is not an operations message and
ends the RPC leaves the server exactly as it was, minus the session's own entry: RIB, election
state and every other session are untouched, and the failed session no longer constrains anyone. -/
theorem c09_noop {s s' : Server} {c : Nat} {m : Msg} {o : MsgOut} (h : recv s c m = some (s', o))
    (hterm : o.term.isSome = true) (hm : ∀ l, m ≠ .ops l) : s' = s.drop c :=
  let ⟨_, _, hr⟩ := recv_spec h
  hr.of_term hterm hm

/-- after the session's exit it is gone from the session table, so a later session's
parameters are no longer compared with it -/
theorem c09_footprint (s : Server) (c : Nat) :
    (s.drop c).sess.get? c = none ∧ (s.drop c).rib = s.rib ∧ (s.drop c).curElec = s.curElec :=
  ⟨Map.get?_erase_self _ _, rfl, rfl⟩

/-- an operation without an election id ends the RPC (FailedPrecondition) and changes nothing,
whenever it is reached -/
theorem c09_op_without_id (r : Rib) (c : Nat) (fib : Bool) (snap : ElecSnap) (op : Op)
    (h : op.elec = none) :
    modifyOne r c fib snap op [] = some (r, {}, .inr ⟨.failedPrecondition, .unknown⟩) := by
  simp [modifyOne, gate, h]

end Gribi.C09
