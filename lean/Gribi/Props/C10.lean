/-
C10 — Client disconnects / abandoned RPCs never change state or wedge the server.

(a) State preservation, on the sequential server model: a disconnect (half-close, cancel,
transport failure — all `close` at message granularity) removes the session's entry and nothing
else; a Get never changes anything.
(b) No wedge, on the Get-stream abstraction `Conc.GS`: however many entries there are and
wherever the client goes away, every maximal run ends with the instance read lock released, so
later writers (Modify, Flush) and readers are served. The stuck state of the code before the repair
of D10 (`GS.enabledGo`) is kept as a witness. Goroutine scheduling, gRPC flow control and timers are not modelled; the
real server is exercised by cut-point enumeration (see DESIGN.md C10).
-/
import Gribi.Model.Conc
import Gribi.Model.Server
namespace Gribi.C10
open Gribi

/-- **C10 (a disconnect changes nothing but the session table).** -/
theorem c10_close_preserves (s : Server) (c : Nat) :
    (s.close c).rib = s.rib ∧ (s.close c).curElec = s.curElec ∧ (s.close c).curMaster = s.curMaster ∧
    (∀ c', c' ≠ c → (s.close c).sess.get? c' = s.sess.get? c') ∧ (s.close c).sess.get? c = none :=
  ⟨rfl, rfl, rfl, fun _ h => Map.get?_erase_ne _ (Ne.symm h), Map.get?_erase_self _ _⟩

/-- a Get (complete or abandoned) never changes server state -/
theorem c10_get_preserves (s : Server) (ni : Server.NiSel) (aft : Server.GetAft) :
    ∀ s' o, Server.step s (.get ni aft) = some (s', o) → s' = s := by
  intro s' o h; cases h; rfl

theorem c10_connect_preserves (s : Server) (c : Nat) :
    (s.connect c).rib = s.rib ∧ (s.connect c).curElec = s.curElec ∧ (s.connect c).curMaster = s.curMaster :=
  ⟨rfl, rfl, rfl⟩

/-- **C10 (serviceable).** On a server with no live session (everyone has gone away, however),
a fresh session that negotiates SINGLE_PRIMARY/PRESERVE (`.params 1 1 ack`) is accepted. That it
becomes primary when it then announces an id not lower than the highest learnt id is
`c10_serviceable_elect`. -/
theorem c10_serviceable (s : Server) (c : Nat) (ack : Nat) (hempty : s.sess = []) :
    (Server.recv (s.connect c) c (.params 1 1 ack)).isSome = true ∧
    ∀ s1 o1, Server.recv (s.connect c) c (.params 1 1 ack) = some (s1, o1) →
      o1.term = none ∧ o1.resps = [.paramsOk] ∧ s1.rib = s.rib ∧ s1.curElec = s.curElec ∧
      (s1.sess.get? c).map (·.params) = some (Server.paramsOf 1 1 ack) := by
  have hg : (s.connect c).sess.get? c = some {} := Map.get?_insert_self ..
  have hr : Server.recv (s.connect c) c (.params 1 1 ack) =
      some (Server.finish c (Server.doParams (s.connect c) c {} 1 1 ack)) := by
    simp only [Server.recv, hg]
  have hd : Server.doParams (s.connect c) c {} 1 1 ack =
      ({ (s.connect c) with sess := (s.connect c).sess.insert c { params := Server.paramsOf 1 1 ack, setParams := true, gotMsg := true } },
       { resps := [.paramsOk] }) := by
    simp [Server.doParams, Server.connect, hempty, Map.insert, Map.erase]
  refine ⟨by rw [hr]; rfl, ?_⟩
  intro s1 o1 h
  rw [hr, hd] at h
  simp only [Server.finish, Option.some.injEq, Prod.mk.injEq] at h
  obtain ⟨rfl, rfl⟩ := h
  simp [Server.connect]

theorem c10_serviceable_elect (s : Server) (c : Nat) (cs : Sess) (e : U128)
    (hcs : s.sess.get? c = some cs) (hp : cs.params.expectElec = true) (hz : e.isZero = false)
    (hge : Server.isNewMaster e s.curElec = true) :
    ∀ s1 o1, Server.recv s c (.elec e) = some (s1, o1) →
      o1.term = none ∧ s1.curMaster = some c ∧ s1.curElec = some e ∧ s1.rib = s.rib := by
  intro s1 o1 h
  simp only [Server.recv, hcs, Server.doElec, hp, hz, hge, Server.finish, Bool.not_true, Bool.false_eq_true,
    if_false, if_true, Option.some.injEq, Prod.mk.injEq] at h
  obtain ⟨rfl, rfl⟩ := h
  exact ⟨rfl, rfl, rfl, rfl⟩

open Gribi.Conc Gribi.Conc.GS

/-- `Get` closes `stopCh` when it returns (`defer close(stopCh)`) -/
def Inv (s : St) : Prop := s.consumerAlive = false → s.stopped = true

theorem inv_fire {s : St} (hi : Inv s) (t : Tr) : Inv (fire s t) := by
  cases t with
  | abandon => exact fun _ => rfl
  | _ => exact hi

/-- **C10 (the lock is always released).** While the producer holds the read lock some
transition is enabled — whatever the number of entries, wherever the client went away. -/
theorem c10_get_no_stuck {s : St} (hi : Inv s) (hl : s.holdsLock = true) : ∃ t, enabled s t = true := by
  by_cases h0 : s.left = 0
  · exact ⟨.producerDone, by simp [enabled, hl, h0]⟩
  · have hpos : s.left > 0 := Nat.pos_of_ne_zero h0
    by_cases hc : s.consumerAlive = true
    · by_cases hb : s.budget = 0
      · exact ⟨.abandon, by simp [enabled, hc, hb, hl, hpos]⟩
      · exact ⟨.handOver, by simp [enabled, hl, hpos, hc]; omega⟩
    · have := hi (by simpa using hc)
      exact ⟨.producerStops, by simp [enabled, hl, this]⟩

def measure (s : St) : Nat := s.left + s.consumerAlive.toNat + 2 * s.holdsLock.toNat

theorem measure_decreases {s : St} (t : Tr) (he : enabled s t = true) : measure (fire s t) < measure s := by
  cases t with
  | handOver =>
    simp only [enabled, Bool.and_eq_true, decide_eq_true_eq] at he
    simp only [fire, measure]; omega
  | abandon =>
    simp only [enabled, Bool.and_eq_true, decide_eq_true_eq] at he
    simp only [fire, measure, he.1.1.1, Bool.toNat_true, Bool.toNat_false]; omega
  | producerStops =>
    simp only [enabled, Bool.and_eq_true] at he
    simp only [fire, measure, he.1, Bool.toNat_true, Bool.toNat_false]; omega
  | producerDone =>
    simp only [enabled, Bool.and_eq_true, decide_eq_true_eq] at he
    simp only [fire, measure, he.1, Bool.toNat_true, Bool.toNat_false]; omega

inductive Run : St → List Tr → St → Prop where
  | nil (s : St) : Run s [] s
  | cons {s s' : St} {t : Tr} {ts : List Tr} : enabled s t = true → Run (fire s t) ts s' → Run s (t :: ts) s'

theorem run_inv {s s' : St} {ts : List Tr} (hr : Run s ts s') (hi : Inv s) : Inv s' := by
  induction hr with
  | nil => exact hi
  | cons _ _ ih => exact ih (inv_fire hi _)

theorem run_length {s s' : St} {ts : List Tr} (hr : Run s ts s') : ts.length + measure s' ≤ measure s := by
  induction hr with
  | nil => simp
  | cons he _ ih =>
    have := measure_decreases _ he
    simp only [List.length_cons]; omega

/-- **C10 (every Get ends with the lock free).** For any number of entries `n` and any point `k`
at which the client abandons the stream, every maximal run has released the lock, after at most
`n + 3` steps. -/
theorem c10_get_releases (n k : Nat) {ts : List Tr} {s' : St}
    (hr : Run { left := n, budget := k } ts s') (hmax : ∀ t, enabled s' t = false) :
    s'.holdsLock = false ∧ ts.length ≤ n + 3 := by
  have hi : Inv { left := n, budget := k } := by intro h; simp at h
  have hi' := run_inv hr hi
  refine ⟨?_, ?_⟩
  · cases h : s'.holdsLock with
    | false => rfl
    | true =>
      obtain ⟨t, ht⟩ := c10_get_no_stuck hi' h
      rw [hmax t] at ht; cases ht
  · have := run_length hr
    simp only [measure, Bool.toNat_true] at this
    omega

def runGo (s : St) (ts : List Tr) : Option St :=
  ts.foldl (fun acc t => acc.bind (fun s => if enabledGo s t then some (fire s t) else none)) (some s)

/-- **the defect D10 (the code before its repair, `enabledGo`).** With plain sends and a polled stop channel, a Get
over two entries abandoned after the first response leaves the producer blocked for ever while
holding the instance read lock. -/
theorem c10_get_wedge_witness_as_written :
    ∃ ts s', runGo { left := 2, budget := 1 } ts = some s' ∧ s'.holdsLock = true ∧ ∀ t, enabledGo s' t = false := by
  refine ⟨[.handOver, .abandon], _, rfl, by decide, ?_⟩
  intro t; cases t <;> decide

end Gribi.C10
