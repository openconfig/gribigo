/-
C11 — Concurrent RPCs: no race, deadlock or crash; quiescent state is consistent.

The argument is a reduction (DESIGN.md C11): (1) regenerated *facts* about the code — every
access to a shared field happens under its designated mutex, read-modify-write sections under the
exclusive mode; lock nesting is acyclic; no channel send under a lock lacks a stop alternative —
are checked by the kernel in `Gribi/FactsGuarded.lean`, `FactsOrder.lean` and `FactsSends.lean`;
(2) given that discipline, critical sections under an exclusive lock are atomic, and the theorems
below show that ANY interleaving of atomic election sections ends with the register at the maximum
announced id and the primary an announcer of it, and any interleaving of an atomic ADD and DELETE
of a group leaves its next-hop's counter right; (3) the witnesses of the two defects are kept (D2:
before its repair the election section ran under the *shared* lock, so the read and the write
could be separated; D20: the table change and the counter change were separate steps). The Go
memory model and scheduler are trusted as the semantics of "atomic under a mutex"; the race
detector run validates the extractor's completeness.
-/
import Gribi.Model.Conc
namespace Gribi.C11
open Gribi.Conc Gribi.Conc.ER

/-- what holds of the register at every point of every interleaving of atomic sections -/
structure RegInv (ids : List Nat) (s : St) : Prop where
  len : s.pcs.length = ids.length
  ge : ∀ (i e : Nat), s.pcs[i]? = some Pc.done → ids[i]? = some e → e ≤ s.cur
  src : (s.master = none ∧ s.cur = 0 ∧ ∀ (i : Nat), s.pcs[i]? ≠ some Pc.done) ∨
        ∃ j, s.master = some j ∧ ids[j]? = some s.cur ∧ s.pcs[j]? = some Pc.done
  /-- no section is half-way (that is what the exclusive lock buys) -/
  atomic : ∀ (i seen : Nat), s.pcs[i]? ≠ some (Pc.read seen)

theorem init_pcs {n i : Nat} {pc : Pc} (h : (init n).pcs[i]? = some pc) : pc = .start :=
  (List.mem_replicate.mp (List.mem_of_getElem? h)).2

theorem inv_init (ids : List Nat) : RegInv ids (init ids.length) :=
  ⟨List.length_replicate, fun _ _ h => (nomatch init_pcs h), Or.inl ⟨rfl, rfl, fun _ h => (nomatch init_pcs h)⟩,
    fun _ _ h => (nomatch init_pcs h)⟩

theorem fireLocked_cases (ids : List Nat) (s : St) (i : Nat) :
    fireLocked ids s i = s ∨ ∃ e, s.pcs[i]? = some Pc.start ∧ ids[i]? = some e ∧
      fireLocked ids s i =
        { (if s.cur ≤ e then { s with cur := e, master := some i } else s) with pcs := s.pcs.set i Pc.done } := by
  unfold fireLocked
  split
  · exact Or.inr ⟨_, ‹_›, ‹_›, rfl⟩
  · exact Or.inl rfl

theorem inv_fireLocked {ids : List Nat} {s : St} (hi : RegInv ids s) (i : Nat) :
    RegInv ids (fireLocked ids s i) := by
  rcases fireLocked_cases ids s i with h | ⟨e, hp, he, h⟩ <;> rw [h]
  · exact hi
  have hpcs (j : Nat) : (s.pcs.set i Pc.done)[j]? = if i = j then some Pc.done else s.pcs[j]? := by
    rw [List.getElem?_set, if_pos (List.getElem?_eq_some_iff.mp hp).1]
  have hlen : (s.pcs.set i Pc.done).length = ids.length := List.length_set.trans hi.len
  have hatomic (j seen : Nat) : (s.pcs.set i Pc.done)[j]? ≠ some (Pc.read seen) := by
    rw [hpcs]; split
    · nofun
    · exact hi.atomic j seen
  have hge {c : Nat} (h1 : s.cur ≤ c) (h2 : e ≤ c) (j e' : Nat) (hj : (s.pcs.set i Pc.done)[j]? = some Pc.done)
      (hje : ids[j]? = some e') : e' ≤ c := by
    rw [hpcs] at hj; split at hj
    · next hij => subst hij; cases he.symm.trans hje; exact h2
    · exact Nat.le_trans (hi.ge j e' hj hje) h1
  by_cases hle : s.cur ≤ e
  · -- the announcer wins
    rw [if_pos hle]
    exact ⟨hlen, hge hle (Nat.le_refl _), Or.inr ⟨i, rfl, he, by rw [hpcs, if_pos rfl]⟩, hatomic⟩
  · rw [if_neg hle]
    refine ⟨hlen, hge (Nat.le_refl _) (Nat.le_of_not_le hle), ?_, hatomic⟩
    rcases hi.src with ⟨_, h0, _⟩ | ⟨j, h1, h2, h3⟩
    · -- nobody has completed yet, so the register is still 0 ≤ e: the announcer cannot lose
      exact absurd (h0 ▸ Nat.zero_le e) hle
    · refine Or.inr ⟨j, h1, h2, ?_⟩
      rw [hpcs]; split
      · rfl
      · exact h3

theorem inv_runLocked {ids : List Nat} (sched : List Nat) {s : St} (hi : RegInv ids s) :
    RegInv ids (runLocked ids s sched) :=
  List.foldlRecOn sched _ hi fun _ hs i _ => inv_fireLocked hs i

/-- **C11 (quiescent election state).** Under the exclusive lock, for ANY number of sessions and
ANY interleaving (schedule) of their announcements: once every announcement has completed, the
reported election id is the maximum that was announced, and the primary is a session that
announced it. -/
theorem c11_quiescent (ids : List Nat) (sched : List Nat)
    (hall : ∀ i, i < ids.length → (runLocked ids (init ids.length) sched).pcs[i]? = some Pc.done) :
    (∀ e ∈ ids, e ≤ (runLocked ids (init ids.length) sched).cur) ∧
    (ids = [] ∨ ∃ j, (runLocked ids (init ids.length) sched).master = some j ∧
      ids[j]? = some (runLocked ids (init ids.length) sched).cur) := by
  have hi : RegInv ids (runLocked ids (init ids.length) sched) := inv_runLocked sched (inv_init ids)
  constructor
  · intro e he
    obtain ⟨i, hlt, hie⟩ := List.getElem_of_mem he
    exact hi.ge i e (hall i hlt) (by rw [List.getElem?_eq_getElem hlt, hie])
  · by_cases hids : ids = []
    · exact Or.inl hids
    · right
      have hpos : 0 < ids.length := List.length_pos_iff.mpr hids
      rcases hi.src with ⟨_, _, hnone⟩ | ⟨j, h1, h2, _⟩
      · exact absurd (hall 0 hpos) (hnone 0)
      · exact ⟨j, h1, h2⟩

theorem fireLocked_done_stays {ids : List Nat} {s : St} (i j : Nat) (h : s.pcs[j]? = some Pc.done) :
    (fireLocked ids s i).pcs[j]? = some Pc.done := by
  rcases fireLocked_cases ids s i with h' | ⟨e, hp, _, h'⟩ <;> rw [h']
  · exact h
  show (s.pcs.set i Pc.done)[j]? = _
  -- `j` is done and `i` was at its start, so they differ
  rwa [List.getElem?_set_ne fun hij => by rw [hij, h] at hp; cases hp]

/-- **the defect D2 (the code before its repair, `fireShared`).** Under the *shared* lock the read and the write of
the compare-and-set can be separated: with two announcers (5 and 7) the schedule
A.read, B.read, B.write, A.write ends with the register at 5 < 7 and the wrong primary. -/
theorem c11_lost_update_witness_as_written :
    (runShared [5, 7] (init 2) [0, 1, 1, 0]).cur = 5 ∧ (runShared [5, 7] (init 2) [0, 1, 1, 0]).master = some 0 ∧
    (runShared [5, 7] (init 2) [0, 1, 1, 0]).pcs = [Pc.done, Pc.done] := by decide +kernel

/-- the same schedule under the exclusive lock (the second firing of a thread is a no-op) -/
example : (runLocked [5, 7] (init 2) [0, 1, 1, 0]).cur = 7 ∧ (runLocked [5, 7] (init 2) [0, 1, 1, 0]).master = some 1 := by
  decide +kernel

open Gribi.Conc.RC in
theorem rc_fireAtomic_ok (s : RC.St) (t : RC.Th) (h : Ok s) : Ok (fireAtomic s t) := by
  cases t <;> rw [fireAtomic] <;> split <;> try exact h
  -- ADD leaves the group present and the counter at 1, DELETE absent and 0, whether or not the group was there before
  all_goals unfold Ok at *; dsimp only; rw [h]; cases s.present <;> rfl

open Gribi.Conc.RC in
/-- **C11 (counters under concurrency).** With each RIB-changing operation atomic (the transaction
mutex, checked as a regenerated fact), every interleaving of a concurrent ADD and DELETE of a
group leaves the next-hop's counter equal to its number of referrers. -/
theorem c11_refcount_atomic (sched : List RC.Th) : Ok (runAtomic ({} : RC.St) sched) :=
  List.foldlRecOn sched fireAtomic (by simp [Ok]) fun s h t _ => rc_fireAtomic_ok s t h

open Gribi.Conc.RC in
/-- **the defect D20 (the code before its repair, `fireSplit`).** With the table change and the counter change as
separate steps, the schedule ADD.install, DELETE.remove, DELETE.decrement, ADD.increment ends with
the group gone and the counter at 1: the next-hop can never be deleted again. -/
theorem c11_stale_counter_witness_as_written :
    (runSplit ({} : RC.St) [.add, .del, .del, .add]).present = false ∧ (runSplit ({} : RC.St) [.add, .del, .del, .add]).cnt = 1 := by
  decide +kernel

end Gribi.C11
