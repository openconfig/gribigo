/-
C12 — Malformed operations are rejected in-band, have no effect, cannot crash the server.

The model's step functions are total (every definition of the model is a total Lean function: that
is the model-level meaning of "cannot crash"; for the implementation it is the class-by-class
correspondence and the crash supervisor that carry it). What is proved here: every class of
invalid operation is answered FAILED (or a clean RPC error) and leaves the RIB, the held
operations (but one held under the id of an invalid ADD: `c12_add_rejected`), the deletion
protection and the election state identical.
-/
import Gribi.Model.Server
import Gribi.Lemmas.RibStep
namespace Gribi.C12
open Gribi Rib

/-- structural invalidity the model derives itself -/
def structurallyInvalid (s : Rib) (op : Op) : Prop :=
  match op.key with
  | .nh i => i = 0
  | .nhg g => g = 0 ∨ op.pl.nhs = [] ∨ op.pl.nhs.contains 0 = true
  | _ => op.pl.grp = 0 ∨ (op.pl.grpNI ≠ "" ∧ s.hasNI op.pl.grpNI = false)

/-- an ADD/REPLACE whose payload is rejected by schema validation (`cls ≠ wf`), or which is
structurally invalid (zero index, zero or missing group id, empty group, zero next-hop in a
group, unknown group network instance), or an explicit REPLACE of a key that is not installed,
is classified `err` -/
theorem invalid_classify_err (s : Rib) (op : Op)
    (h : op.cls ≠ .wf ∨ structurallyInvalid s op ∨ (op.ty = .replace ∧ s.has (op.ni, op.key) = false)) :
    classify s op = .err := by
  refine classify_err_iff.mpr fun v => ?_
  rcases h with h | h | h
  · exact h v.cls
  · have hs := v.shape
    have hg := v.grpNI
    unfold structurallyInvalid at h
    unfold Shape at hs
    cases hk : op.key <;> simp only [hk] at h hs hg
    case nh => exact hs h
    case nhg => exact h.elim hs.1 fun h => h.elim hs.2.1 fun h => Bool.false_ne_true (hs.2.2.symm.trans h)
    all_goals exact h.elim hs fun h => Bool.false_ne_true (h.2.symm.trans (hg rfl h.1))
  · exact Bool.false_ne_true (h.2.symm.trans (v.replace h.1))

/-- **C12 (ADD/REPLACE).** An invalid ADD/REPLACE is answered FAILED at once; installed entries,
reference counters, instances are untouched, and so are the held operations (its own id, if it
names a held operation, is dropped — ids are the client's to keep distinct). -/
theorem c12_add_rejected (s : Rib) (op : Op) (hni : s.hasNI op.ni = true) (hcls : op.cls ≠ .noEntry)
    (herr : classify s op = .err) :
    Rib.add s op [] = some (({ s with pend := s.pend.erase op.id } : Rib), ({ fails := [op.id] } : Rib.Out)) :=
  (add_err (fun h => h.elim hcls (· hni)) herr []).trans (if_pos rfl)

theorem erase_absent {m : Map Nat Op} {k : Nat} (h : m.get? k = none) : m.erase k ≃ₘ m :=
  (Map.erase_of_get?_none h).symm ▸ .refl m

/-- an operation without any entry, or naming an unknown instance at the RIB layer, is a clean
error: nothing changes -/
theorem c12_add_fatal (s : Rib) (op : Op) (h : op.cls = .noEntry ∨ s.hasNI op.ni = false) :
    Rib.add s op [] = some (s, { fatal := true }) :=
  (add_fatal (h.imp_right fun h => by simp [h]) []).trans (if_pos rfl)

/-- **C12 (DELETE).** A DELETE that is invalid (rejected key message, zero id, label that does not
fit) or refused changes nothing at all -/
theorem c12_del_rejected (s : Rib) (op : Op) (h : classifyDel s op = .err ∨ classifyDel s op = .refd) :
    (Rib.del s op).1 = s ∧ (Rib.del s op).2.oks = [] := by
  unfold Rib.del
  by_cases hf : op.cls = .noEntry ∨ ¬ s.hasNI op.ni
  · rw [if_pos hf]; exact ⟨rfl, rfl⟩
  · rcases h with h | h <;> rw [if_neg hf, h] <;> exact ⟨rfl, rfl⟩

theorem c12_del_invalid_err (s : Rib) (op : Op)
    (h : op.cls ≠ .wf ∨ op.key = .nhg 0 ∨ op.key = .nh 0 ∨ ∃ l, op.key = .mpls l ∧ l > maxLabel) :
    classifyDel s op = .err := by
  rw [classifyDel_spec, if_pos]
  unfold delValid
  rcases h with h | h | h | ⟨l, h, hl⟩
  · simp [h]
  · simp [h]
  · simp [h]
  · simp [h, Nat.not_le.mpr hl]

open Server in
/-- **C12 (server level).** An operation naming an empty or unknown network instance is answered
FAILED in-band and leaves the RIB untouched; the rest of the request is processed as if it were
not there. (An unsupported operation type: `c12_bad_type`.) -/
theorem c12_bad_ni (r : Rib) (c : Nat) (fib : Bool) (snap : ElecSnap) (op : Op) (rest : List (Op × List CEv))
    (h : op.ni = "" ∨ r.hasNI op.ni = false) :
    modifyLoop r c fib snap ((op, []) :: rest) =
      (modifyLoop r c fib snap rest).map (fun x => (x.1, { x.2 with resps := .results [(op.id, .failed)] :: x.2.resps })) := by
  have : op.ni = "" ∨ ¬ r.hasNI op.ni = true := by
    rcases h with h | h
    · exact Or.inl h
    · exact Or.inr (by simp [h])
  simp only [modifyLoop, this, if_true]
  cases modifyLoop r c fib snap rest <;> simp

open Server in
theorem c12_bad_type (r : Rib) (c : Nat) (fib : Bool) (snap : ElecSnap) (op : Op)
    (hg : gate c op.elec snap = .proceed) (ht : op.ty = .invalid) :
    modifyOne r c fib snap op [] = some (r, {}, .inl (.results [(op.id, .failed)])) := by
  simp [modifyOne, hg, ht]

/-- non-vacuity: one of each class against a small RIB, all rejected, nothing changes -/
example :
    let s := (Rib.new "D")
    let bad : List Op := [
      { id := 1, ty := .add, ni := "D", key := .nh 0, pl := {} },
      { id := 2, ty := .add, ni := "D", key := .nhg 1, pl := { nhs := [] } },
      { id := 3, ty := .add, ni := "D", key := .nhg 1, pl := { nhs := [0] } },
      { id := 4, ty := .add, ni := "D", key := .v4 "1.0.0.0/8", pl := { grp := 0 } },
      { id := 5, ty := .add, ni := "D", key := .v4 "1.0.0.0/8", pl := { grp := 1, grpNI := "NOPE" } },
      { id := 6, ty := .add, ni := "D", key := .v4 "bad", pl := { grp := 1 }, cls := .bad },
      { id := 7, ty := .replace, ni := "D", key := .nh 1, pl := {} } ]
    bad.all (fun op => (Rib.add s op []).map (fun r => (r.1.ents, r.1.pend, r.2.fails)) == some ([], [], [op.id])) = true := by
  decide

end Gribi.C12
