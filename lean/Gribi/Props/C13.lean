/-
C13 — Client accounting: operations are queued, pending or resulted; converged = answered.

For every sequence of client events (requests queued by the application, responses of ANY
server — delayed, reordered, batched, interleaved with election / parameter responses, or
violating the protocol — and stream errors) the conservation law holds: for each id, the number
of times it was accepted into the pending set equals the number of terminal results recorded
for it (with the details of that operation) plus one if it is still pending.
-/
import Gribi.Lemmas.Client
namespace Gribi.C13
open Gribi Cl

/-- a recorded terminal result for `id`, carrying the operation's details -/
def isCompletion (fibMode : Bool) (id : Nat) (r : Option Res) : Bool :=
  match r with
  | some r => r.opId == id && r.details.isSome && (match r.status with | some st => terminal fibMode st | none => false)
  | none => false

def completions (s : State) (id : Nat) : Nat := s.results.countP (isCompletion s.fibMode id)
def acceptedCount (s : State) (id : Nat) : Nat := s.accepted.countP (fun e => e.1 == id)

def pendBit (m : Map Nat OpInfo) (id : Nat) : Nat := if m.has id then 1 else 0

theorem pendBit_insert (m : Map Nat OpInfo) (k id : Nat) (v : OpInfo) :
    pendBit (m.insert k v) id = if k = id then 1 else pendBit m id := by
  unfold pendBit Map.has
  rw [Map.get?_insert]
  by_cases h : k = id <;> simp [h]

theorem pendBit_erase (m : Map Nat OpInfo) (k id : Nat) :
    pendBit (m.erase k) id = if k = id then 0 else pendBit m id := by
  unfold pendBit Map.has
  rw [Map.get?_erase]
  by_cases h : k = id <;> simp [h]

theorem pendBit_of_get_none {m : Map Nat OpInfo} {id : Nat} (h : m.get? id = none) : pendBit m id = 0 := by
  simp [pendBit, Map.has, h]

theorem pendBit_of_get_some {m : Map Nat OpInfo} {id : Nat} {v : OpInfo} (h : m.get? id = some v) : pendBit m id = 1 := by
  simp [pendBit, Map.has, h]

/-- The conservation law with its supporting facts. It speaks of four components of the state only
(`fibMode`, `results`, `pendOps`, `accepted`), so a step that leaves them alone keeps it by definition (`exact hi`). -/
structure Acct (fib : Bool) (results : List (Option Res)) (pend : Map Nat OpInfo) (log : List (Nat × OpInfo)) : Prop where
  nodup : Map.NoDupKeys pend
  conserve : ∀ id, log.countP (fun e => e.1 == id) = results.countP (isCompletion fib id) + pendBit pend id
  pendLogged : ∀ id info, pend.get? id = some info → (id, info) ∈ log
  resLogged : ∀ r info, some r ∈ results → r.details = some info → (r.opId, info) ∈ log

abbrev Inv (s : State) : Prop := Acct s.fibMode s.results s.pendOps s.accepted

theorem inv_init (fib : Bool) : Inv { fibMode := fib } :=
  ⟨Map.nodup_nil, fun _ => rfl, fun _ _ h => (nomatch h), fun _ _ h => (nomatch h)⟩

theorem addOps_acct {fib : Bool} {results : List (Option Res)} {pend : Map Nat OpInfo} {log : List (Nat × OpInfo)}
    (ops : List (Nat × OpInfo)) (h : Acct fib results pend log) :
    Acct fib results (addOps pend log ops).1 (addOps pend log ops).2.1 := by
  fun_induction addOps pend log ops with
  | case1 | case2 => exact h
  | case3 pend log id0 info0 _ hh ih =>
    refine ih ⟨Map.nodup_insert h.nodup _ _, fun id => ?_, fun id info hg => ?_,
      fun r info h1 h2 => List.mem_append_left _ (h.resLogged r info h1 h2)⟩
    · -- `id0` was not pending, and is now, and is logged once more
      rw [List.countP_append, h.conserve id, pendBit_insert]
      by_cases hid : id0 = id
      · subst hid; simp [show pendBit pend id0 = 0 from if_neg hh]
      · simp [hid]
    · rw [Map.get?_insert] at hg
      split at hg
      · rename_i hk; cases hg; subst hk; simp
      · exact List.mem_append_left _ (h.pendLogged id info hg)

theorem inv_q {s : State} (hi : Inv s) (m : Req) : Inv (q s m) := by
  rw [q_eq]; exact addOps_acct m.ops hi

/-- One more result `x`, while operations may leave the pending set: the law is kept when `x` is a
completion of exactly the id that left (of none, if none left), and the details of `x`, if it has
any, are those of a logged operation. Every step of `recv` has this shape. -/
theorem Acct.push {fib : Bool} {results : List (Option Res)} {pend pend' : Map Nat OpInfo} {log : List (Nat × OpInfo)}
    (h : Acct fib results pend log) (x : Option Res) (hn : Map.NoDupKeys pend')
    (hc : ∀ id, pendBit pend id = (if isCompletion fib id x then 1 else 0) + pendBit pend' id)
    (hp : ∀ id info, pend'.get? id = some info → pend.get? id = some info)
    (hx : ∀ r info, x = some r → r.details = some info → (r.opId, info) ∈ log) :
    Acct fib (results ++ [x]) pend' log := by
  refine ⟨hn, fun id => ?_, fun id info hg => h.pendLogged id info (hp id info hg), fun r info h1 h2 => ?_⟩
  · rw [h.conserve id, List.countP_append, List.countP_singleton, hc id]; omega
  · rcases List.mem_append.mp h1 with h1 | h1
    · exact h.resLogged r info h1 h2
    · exact hx r info (List.mem_singleton.mp h1).symm h2

/-- a result without details (election, parameters, late RIB ack) or a nil entry -/
theorem Acct.note {fib : Bool} {results : List (Option Res)} {pend : Map Nat OpInfo} {log : List (Nat × OpInfo)}
    (h : Acct fib results pend log) (x : Option Res) (hd : ∀ r, x = some r → r.details = none) :
    Acct fib (results ++ [x]) pend log :=
  h.push x h.nodup (fun id => by cases x <;> simp [isCompletion, hd]) (fun _ _ hg => hg)
    (fun r _ h1 h2 => by rw [hd r h1] at h2; cases h2)

theorem inv_clearOp {s : State} (hi : Inv s) (r : Nat × Status) : Inv (clearOp s r).1 := by
  unfold clearOp
  cases hg : s.pendOps.get? r.1 with
  | none => simp only; split <;> exact hi.note _ (fun _ h => by cases h <;> rfl)
  | some info =>
    have hx : ∀ r' info', some ({ opId := r.1, status := some r.2, details := some info } : Res) = some r' →
        r'.details = some info' → (r'.opId, info') ∈ s.accepted := by
      intro r' info' h1 h2; cases h1; cases h2; exact hi.pendLogged r.1 info hg
    simp only
    by_cases ht : terminal s.fibMode r.2 = true
    · -- a completion of `r.1`, which leaves the pending set
      simp only [ht, if_true]
      refine hi.push _ (Map.nodup_erase hi.nodup _) (fun id => ?_) (fun _ _ h => (Map.get?_erase_some h).2) hx
      rw [pendBit_erase]
      by_cases hid : r.1 = id
      · subst hid; simp [isCompletion, ht, pendBit_of_get_some hg]
      · simp [isCompletion, hid]
    · simp only [ht, Bool.false_eq_true, if_false]
      exact hi.push _ hi.nodup (fun id => by simp [isCompletion, ht]) (fun _ _ h => h) hx

theorem clearOp_fib (s : State) (r : Nat × Status) : (clearOp s r).1.fibMode = s.fibMode := by
  unfold clearOp; split
  · split <;> rfl
  · rfl

theorem inv_clearOps {s : State} (hi : Inv s) (l : List (Nat × Status)) : Inv (clearOps s l).1 :=
  clearOps_invariant (P := Inv) (fun _ r h => inv_clearOp h r) l s hi

theorem inv_noteElec {s : State} (hi : Inv s) (m : Resp) : Inv (noteElec s m) := by
  unfold noteElec
  split
  · exact hi.note _ (fun _ h => by cases h; rfl)
  · exact hi

theorem inv_noteParams {s : State} (hi : Inv s) (m : Resp) : Inv (noteParams s m) := by
  unfold noteParams
  split
  · exact hi.note _ (fun _ h => by cases h; rfl)
  · exact hi

theorem inv_recv {s : State} (hi : Inv s) (m : Resp) : Inv (recv s m).1 := by
  rw [recv_eq]
  by_cases h : populated m > 1
  · rw [if_pos h]; exact hi
  · rw [if_neg h]; exact inv_clearOps (inv_noteParams (inv_noteElec hi m) m) m.results

theorem inv_step {s : State} (hi : Inv s) (e : Ev) : Inv (step s e) := by
  cases e with
  | q m => exact inv_q hi m
  | recv m => rw [step]; exact inv_recv hi m
  | reset => exact inv_init s.fibMode
  | _ => exact hi

theorem inv_run (evs : List Ev) (s : State) (h : Inv s) : Inv (run s evs) :=
  List.foldlRecOn evs step h fun _ hs e _ => inv_step hs e

/-- **C13 (conservation).** After any sequence of events — whatever the server sends — every
operation id satisfies: (times accepted) = (terminal results recorded for it that carry details:
the operation's own type and key, by `c13_details`) + (1 if still pending). Nothing is lost,
nothing completes twice. -/
theorem c13_conservation (fib : Bool) (evs : List Ev) :
    ∀ id, acceptedCount (run { fibMode := fib } evs) id =
      completions (run { fibMode := fib } evs) id + pendBit (run { fibMode := fib } evs).pendOps id := by
  exact (inv_run evs _ (inv_init fib)).conserve

/-- **C13 (details).** Every result that carries details carries those of an operation that was
accepted with that id. -/
theorem c13_details (fib : Bool) (evs : List Ev) (r : Res) (info : OpInfo)
    (h : some r ∈ (run { fibMode := fib } evs).results) (hd : r.details = some info) :
    (r.opId, info) ∈ (run { fibMode := fib } evs).accepted := by
  exact (inv_run evs _ (inv_init fib)).resLogged r info h hd

/-- **C13 (a RIB acknowledgement alone never completes an operation in FIB-ack mode).** -/
theorem c13_rib_not_terminal_in_fib (s : State) (hf : s.fibMode = true) (id : Nat) (info : OpInfo)
    (hp : s.pendOps.get? id = some info) :
    (clearOp s (id, .rib)).1.pendOps = s.pendOps ∧ (clearOp s (id, .rib)).2 = true := by
  simp [clearOp, hp, terminal, hf]

/-- **C13 (converged ⇔ answered).** `AwaitConverged` reports success exactly when nothing is
queued or pending and no error was recorded, and returns the recorded errors otherwise. -/
theorem c13_converged_iff (s : State) :
    (await s = .converged ↔
      (s.sendErrs = 0 ∧ s.recvErrs = 0 ∧ s.sendq = [] ∧ s.pendOps = [] ∧ s.pendElec = false ∧ s.pendParams = false)) ∧
    (∀ a b, await s = .errors a b ↔ ((s.sendErrs ≠ 0 ∨ s.recvErrs ≠ 0) ∧ a = s.sendErrs ∧ b = s.recvErrs)) := by
  unfold await
  by_cases h : s.sendErrs ≠ 0 ∨ s.recvErrs ≠ 0
  · -- errors recorded: they are what is returned
    rw [if_pos h]
    refine ⟨⟨nofun, fun h' => absurd h (by omega)⟩, fun a b => ?_⟩
    rw [Await.errors.injEq]
    exact ⟨fun ⟨ha, hb⟩ => ⟨h, ha.symm, hb.symm⟩, fun ⟨_, ha, hb⟩ => ⟨ha.symm, hb.symm⟩⟩
  · -- none recorded: converged exactly when nothing is queued or pending
    rw [if_neg h]
    refine ⟨?_, fun a b => ⟨by split <;> nofun, fun h' => absurd h'.1 h⟩⟩
    have he : s.sendErrs = 0 ∧ s.recvErrs = 0 := by omega
    split <;> rename_i hc
    · exact ⟨fun _ => ⟨he.1, he.2, hc.1, hc.2.1, by simpa using hc.2.2.1, by simpa using hc.2.2.2⟩, fun _ => rfl⟩
    · exact ⟨nofun, fun h' => absurd ⟨h'.2.2.1, h'.2.2.2.1, by simp [h'.2.2.2.2.1], by simp [h'.2.2.2.2.2]⟩ hc⟩

/-- **C13 (violations surface).** A result for an id that is not pending — an unknown id, or a
second terminal result after the first removed it — records a receive error and stops the
receiver; the only tolerated case is a late RIB acknowledgement in FIB-ack mode. -/
theorem c13_violations_surface (s : State) (id : Nat) (st : Status) (rest : List (Nat × Status))
    (hunk : s.pendOps.get? id = none) (hperm : ¬ (st = .rib ∧ s.fibMode = true)) :
    (recv s { results := (id, st) :: rest, hasResults := true }).2 = false ∧
    (recv s { results := (id, st) :: rest, hasResults := true }).1.recvErrs = s.recvErrs + 1 := by
  have h : clearOp s (id, st) = ({ s with results := s.results ++ [none] }, false) := by
    unfold clearOp
    rw [show s.pendOps.get? (id, st).1 = none from hunk]
    exact if_neg hperm
  simp [recv, populated, noteElec, noteParams, clearOps, h]

/-- after a terminal result the id is no longer pending, so a duplicate is such a violation -/
theorem c13_terminal_removes (s : State) (hn : Map.NoDupKeys s.pendOps) (id : Nat) (st : Status) (info : OpInfo)
    (hp : s.pendOps.get? id = some info) (ht : terminal s.fibMode st = true) :
    (clearOp s (id, st)).1.pendOps.get? id = none := by
  simp [clearOp, hp, ht]

/-- non-vacuity: a FIB-mode exchange with reordering, a late RIB ack, and a duplicate -/
example :
    let i : OpInfo := { ty := 1, kind := 4, key := "1" }
    let s := run { fibMode := true } [.startSending, .q { params := true }, .q { elec := true },
      .q { ops := [(1, i), (2, i)] }, .recv { params := true }, .recv { elec := true },
      .recv { results := [(2, .rib), (1, .rib)], hasResults := true },
      .recv { results := [(2, .fib)], hasResults := true }]
    (await s, s.pendOps.map (·.1), completions s 2, completions s 1,
     await (step s (.recv { results := [(1, .fib), (2, .rib)], hasResults := true })),
     await (step s (.recv { results := [(2, .fib)], hasResults := true }))) =
    (.notYet, [1], 1, 0, .converged, .errors 0 1) := by decide +kernel

end Gribi.C13
