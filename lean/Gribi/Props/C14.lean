/-
C14 — The client terminates cleanly under server faults.

Proved on the lifecycle abstraction `Conc.LC` (application queueing a burst of any length,
sender, stream fault at any point, the sender's exit signal): no reachable state is stuck while
the application still has requests to queue, and every run is finite — so every call that queues
a request returns. With the accounting model (C13): a recorded fault makes AwaitConverged return
the error, never success; Reset gives the initial accounting state. The witness of defect D12 (`q`
before its repair, `LC.enabledGo`) is kept. Goroutine scheduling, `sync.WaitGroup`, gRPC and timers are not
modelled; the real client is exercised by fault enumeration (see DESIGN.md C14).
-/
import Gribi.Model.Conc
import Gribi.Model.Client
namespace Gribi.C14
open Gribi.Conc Gribi.Conc.LC

theorem inv_fire {s : St} (hi : Inv s) (t : Tr) (he : enabled s t = true) : Inv (fire s t) := by
  obtain ⟨h1, h2⟩ := hi
  cases t with
  | appQ =>
    simp only [enabled, Bool.and_eq_true, Bool.or_eq_true, decide_eq_true_eq] at he
    show Inv (if s.exitClosed = true then _ else _)
    split
    · exact ⟨h1, h2⟩
    · next hx => exact ⟨h1, he.2.resolve_left hx⟩  -- a message goes in only where there is room
  | sendOk => exact ⟨h1, Nat.le_trans (Nat.sub_le ..) h2⟩
  | sendFail => exact ⟨fun _ => Or.inr rfl, Nat.le_trans (Nat.sub_le ..) h2⟩
  | signalExit => exact ⟨fun _ => Or.inl rfl, h2⟩

/-- **C14 (no stuck state).** While the application still has a request to queue, something can
always move: its own `q`, the sender, or the exiting sender's signal. -/
theorem c14_no_stuck {s : St} (hi : Inv s) (ha : s.appLeft > 0) : ∃ t, enabled s t = true := by
  by_cases h1 : s.exitClosed = true
  · exact ⟨.appQ, by simp [enabled, ha, h1]⟩
  · by_cases h2 : s.chan < cap
    · exact ⟨.appQ, by simp [enabled, ha, h2]⟩
    · have hc : s.chan > 0 := by unfold cap at h2; omega
      by_cases h3 : s.senderAlive = true
      · exact ⟨.sendOk, by simp [enabled, h3, hc]⟩
      · have := hi.1 (by simpa using h3)
        rcases this with h | h
        · exact absurd h h1
        · exact ⟨.signalExit, by simp [enabled, h]⟩

def bit : Bool → Nat
  | true => 1
  | false => 0

def measure (s : St) : Nat := 3 * s.appLeft + 2 * s.chan + bit s.exitPending

theorem measure_decreases {s : St} (t : Tr) (he : enabled s t = true) : measure (fire s t) < measure s := by
  cases t <;> simp only [enabled, Bool.and_eq_true, decide_eq_true_eq] at he <;> simp only [fire, measure, bit]
  case appQ => split <;> dsimp only <;> omega  -- one request fewer, at most one message more
  case sendOk => omega
  case sendFail => omega
  case signalExit => rw [he]; exact Nat.lt_succ_self _

inductive Run : St → List Tr → St → Prop where
  | nil (s : St) : Run s [] s
  | cons {s s' : St} {t : Tr} {ts : List Tr} : enabled s t = true → Run (fire s t) ts s' → Run s (t :: ts) s'

theorem run_inv {s s' : St} {ts : List Tr} (hr : Run s ts s') (hi : Inv s) : Inv s' := by
  induction hr with
  | nil => exact hi
  | cons he _ ih => exact ih (inv_fire hi _ he)

theorem run_length {s s' : St} {ts : List Tr} (hr : Run s ts s') : ts.length + measure s' ≤ measure s := by
  induction hr with
  | nil => simp
  | cons he _ ih =>
    have := measure_decreases _ he
    simp only [List.length_cons]
    omega

/-- **C14 (queueing calls return).** Every run is finite (bounded by the measure), and a run
that cannot be extended has no request left to queue: for any burst length, any fault position. -/
theorem c14_q_returns {s s' : St} {ts : List Tr} (hi : Inv s) (hr : Run s ts s')
    (hmax : ∀ t, enabled s' t = false) : s'.appLeft = 0 ∧ ts.length ≤ measure s := by
  refine ⟨?_, by have := run_length hr; omega⟩
  have hi' := run_inv hr hi
  cases h : s'.appLeft with
  | zero => rfl
  | succ n =>
    obtain ⟨t, ht⟩ := c14_no_stuck hi' (by omega)
    rw [hmax t] at ht
    cases ht

theorem inv_init (n : Nat) : Inv { appLeft := n } :=
  ⟨nofun, Nat.zero_le _⟩

def runGo (s : St) (ts : List Tr) : Option St :=
  ts.foldl (fun acc t => acc.bind (fun s => if enabledGo s t then some (fireGo s t) else none)) (some s)

/-- **the defect D12.** With `q` as it was before the repair (test the exit channel, then a
plain blocking send: `enabledGo`, `fireGo`) a burst of 8 requests and a failing first `Send` reach a state in which the
application is blocked for ever: channel full, sender gone — even after the exit signal. -/
theorem c14_stuck_witness_as_written :
    ∃ ts s', runGo { appLeft := 8 } ts = some s' ∧ s'.appLeft > 0 ∧ ∀ t, enabledGo s' t = false := by
  refine ⟨[.appQ, .appQ, .appQ, .appQ, .appQ, .appQ, .appQ, .appQ, .appQ, .appQ,   -- five messages queued
           .appQ,                                                                     -- sixth: committed, blocked (full)
           .sendFail,                                                                 -- first Send fails
           .appQ,                                                                     -- sixth goes in
           .appQ,                                                                     -- seventh passes the test (no signal yet)
           .signalExit], _, rfl, ?_, ?_⟩
  · decide
  · intro t; cases t <;> decide

open Gribi.Cl in
/-- **C14 (the error surfaces).** In a state with a recorded send or receive fault AwaitConverged
returns the recorded errors and does not report convergence. -/
theorem c14_error_surfaces (s : State) (h : s.sendErrs ≠ 0 ∨ s.recvErrs ≠ 0) :
    await s = .errors s.sendErrs s.recvErrs ∧ await s ≠ .converged := by
  unfold await
  simp [h]

open Gribi.Cl in
/-- **C14 (Reset gives a fresh client).** No stale pending operations, results or errors. -/
theorem c14_reset_fresh (s : State) :
    (reset s).pendOps = [] ∧ (reset s).results = [] ∧ (reset s).sendErrs = 0 ∧ (reset s).recvErrs = 0 ∧
    (reset s).sendq = [] ∧ (reset s).pendElec = false ∧ (reset s).pendParams = false ∧
    await (reset s) = .converged := by
  simp [reset, await]

end Gribi.C14
