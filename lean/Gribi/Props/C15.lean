/-
C15 — Reconciler output converges the target RIB to the intended RIB.

Stated on `Recon.diff` / `Recon.ops` (model of rib/reconciler `diff` and of the documented sending
order) and the RIB model (`Rib.add`, `Rib.del`, reference checking on). This file: the clauses
about the operation set itself (what is in the buckets; a converged target gives nothing; ids).
The convergence theorem is in `Gribi/Props/C15Conv.lean`.
-/
import Gribi.Model.Recon
import Gribi.Lemmas.RibBasic
namespace Gribi.C15
open Gribi Recon

theorem mem_toAdd {I T : Ents} {e : EKey × Payload} : e ∈ toAdd I T ↔ e ∈ I ∧ T.get? e.1 = none := by
  simp [toAdd, List.mem_filter, Option.isNone_iff_eq_none]

theorem mem_toDelete {I T : Ents} {e : EKey × Payload} : e ∈ toDelete I T ↔ e ∈ T ∧ I.get? e.1 = none := by
  simp [toDelete, List.mem_filter, Option.isNone_iff_eq_none]

theorem mem_toReplace {I T : Ents} {e : EKey × Payload} :
    e ∈ toReplace I T ↔ e ∈ I ∧ ∃ p, T.get? e.1 = some p ∧ p ≠ e.2 := by
  rw [toReplace, List.mem_filter]
  cases T.get? e.1 <;> simp

theorem kinds (e : EKey × Payload) : isNh e = true ∨ isNhg e = true ∨ isTop e = true := by
  obtain ⟨⟨ni, k⟩, p⟩ := e
  cases k <;> simp [isNh, isNhg, isTop, Key.isTop]

theorem mem_of {l : Ents} {e : EKey × Payload} :
    e ∈ l ↔ e ∈ (Ops.of l).nh ∨ e ∈ (Ops.of l).nhg ∨ e ∈ (Ops.of l).top := by
  simp only [Ops.of, List.mem_filter, ← and_or_left, kinds e, and_true]

theorem mem_installs {I T : Ents} {e : EKey × Payload} :
    e ∈ installs (diff I T) ↔ e ∈ toAdd I T ∨ e ∈ toReplace I T := by
  rw [mem_of (l := toAdd I T), mem_of (l := toReplace I T)]
  simp only [installs, diff, List.mem_append, or_assoc]

theorem mem_removals {I T : Ents} {e : EKey × Payload} :
    e ∈ removals (diff I T) ↔ e ∈ toDelete I T := by
  rw [mem_of (l := toDelete I T)]
  simp only [removals, diff, List.mem_append]
  exact or_comm.trans (or_congr_right or_comm)

theorem mem_of_install {I T : Ents} {e : EKey × Payload} (h : e ∈ toAdd I T ∨ e ∈ toReplace I T) : e ∈ I :=
  h.elim (List.mem_filter.mp · |>.1) (List.mem_filter.mp · |>.1)

/-- **C15 (fixed point).** Once the target's contents equal the intended contents, a further
reconciliation yields no operations. -/
theorem c15_fixpoint {I D : Ents} (hI : Map.NoDupKeys I) (h : D ≃ₘ I) (base : Nat) :
    ops I D base = [] := by
  have hD : ∀ e ∈ I, D.get? e.1 = some e.2 := fun e he => (h e.1).trans (Map.get?_of_mem_nodup hI he)
  have hi : installs (diff I D) = [] := List.eq_nil_iff_forall_not_mem.mpr fun e he => by
    rcases mem_installs.mp he with h' | h'
    · obtain ⟨hm, hn⟩ := mem_toAdd.mp h'
      exact nomatch (hD e hm).symm.trans hn
    · obtain ⟨hm, p, hp, hne⟩ := mem_toReplace.mp h'
      exact hne (Option.some.inj (hp.symm.trans (hD e hm)))
  have hr : removals (diff I D) = [] := List.eq_nil_iff_forall_not_mem.mpr fun e he => by
    obtain ⟨hm, hn⟩ := mem_toDelete.mp (mem_removals.mp he)
    exact Map.get?_eq_none.mp ((h e.1).trans hn) (List.mem_map.mpr ⟨e, hm, rfl⟩)
  rw [ops, hi, hr]
  rfl

/-- **C15 (equal RIBs).** Reconciling a RIB with itself yields no operations, whatever the base. -/
theorem c15_equal_empty (I : Ents) (hn : Map.NoDupKeys I) (base : Nat) : ops I I base = [] :=
  c15_fixpoint hn (MapEquiv.refl I) base

theorem number_eq (b : Nat) (l : List (OpType × (EKey × Payload))) :
    number b l = (l.zipIdx (b + 1)).map fun x => mkOp x.2 x.1.1 x.1.2 := by
  induction l generalizing b with
  | nil => rfl
  | cons x rest ih => rw [number, ih, List.zipIdx_cons, List.map_cons]

theorem number_length (b : Nat) (l : List (OpType × (EKey × Payload))) : (number b l).length = l.length := by
  rw [number_eq, List.length_map, List.length_zipIdx]

theorem number_ids (b : Nat) (l : List (OpType × (EKey × Payload))) :
    (number b l).map (·.id) = List.range' (b + 1) l.length := by
  rw [number_eq, List.map_map, ← List.zipIdx_map_snd]; rfl

theorem number_append (b : Nat) (x y : List (OpType × (EKey × Payload))) :
    number b (x ++ y) = number b x ++ number (b + x.length) y := by
  rw [number_eq, number_eq, number_eq, List.zipIdx_append, List.map_append, Nat.add_right_comm]

theorem mem_number {b : Nat} {l : List (OpType × (EKey × Payload))} {op : Op} (h : op ∈ number b l) :
    ∃ x ∈ l, op.ty = x.1 ∧ ((op.ni, op.key), op.pl) = x.2 := by
  rw [number_eq] at h
  obtain ⟨x, hx, rfl⟩ := List.mem_map.mp h
  exact ⟨x.1, List.fst_mem_of_mem_zipIdx hx, rfl, rfl⟩

/-- **C15 (ids).** The generated operation ids are exactly `base + 1, …, base + n`, in sending
order: distinct and counting up from the supplied base. -/
theorem c15_ids (I T : Ents) (base : Nat) :
    (ops I T base).map (·.id) = List.range' (base + 1) (ops I T base).length := by
  rw [ops, number_ids, number_length]

theorem c15_ids_nodup (I T : Ents) (base : Nat) : ((ops I T base).map (·.id)).Nodup := by
  rw [c15_ids]; exact List.nodup_range'

/-- every operation is an ADD of an entry of the intended RIB or a DELETE of an entry only the
target has; nothing else is ever sent -/
theorem c15_ops_sound (I T : Ents) (base : Nat) (op : Op) (h : op ∈ ops I T base) :
    (op.ty = .add ∧ ((op.ni, op.key), op.pl) ∈ I) ∨
    (op.ty = .delete ∧ ((op.ni, op.key), op.pl) ∈ T ∧ I.get? (op.ni, op.key) = none) := by
  obtain ⟨x, hx, hty, he⟩ := mem_number h
  rcases List.mem_append.mp hx with hx | hx <;> obtain ⟨e, hein, rfl⟩ := List.mem_map.mp hx
  · exact Or.inl ⟨hty, he ▸ mem_of_install (mem_installs.mp hein)⟩
  · obtain ⟨hT, hI⟩ := mem_toDelete.mp (mem_removals.mp hein)
    have hk : (op.ni, op.key) = e.1 := congrArg Prod.fst he
    exact Or.inr ⟨hty, he ▸ hT, hk ▸ hI⟩

end Gribi.C15
