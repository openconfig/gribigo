/-
C15 — convergence: sending `Recon.ops I T base` in order to a RIB whose contents are `T`
programs every operation and leaves the contents equal to `I`.

The idea: keys have a dependency level (`lvl`: next-hop 0, group 1, top-level entry 2) and an
entry refers only to keys of the level below (`Rib.refs`). A run of ADDs of entries of a closed `I`
goes through if each new key comes after the new keys of lower level, and ends in the contents it
heads for (`insert_phase`; for the reconciler's ADDs that is `I` laid over what was there,
`installs_run`); a run of DELETEs of keys `I` lacks goes through if it descends in level and
everything that stays is an entry of `I`, and leaves exactly `I` (`delete_phase`). The nine buckets
in the documented order are one instance of each.
-/
import Gribi.Props.C15
import Gribi.Props.C02
namespace Gribi.C15
open Gribi Rib Spec Recon

/-- the static conditions every installed entry satisfies (what `classify` / `classifyDel` test
besides references) -/
def StaticOk (s : Rib) (k : EKey) (p : Payload) : Prop :=
  s.hasNI k.1 = true ∧
  match k.2 with
  | .nh i => i ≠ 0
  | .nhg g => g ≠ 0 ∧ p.nhs ≠ [] ∧ p.nhs.contains 0 = false
  | .mpls l => p.grp ≠ 0 ∧ (p.grpNI = "" ∨ s.hasNI p.grpNI = true) ∧ l ≤ maxLabel
  | _ => p.grp ≠ 0 ∧ (p.grpNI = "" ∨ s.hasNI p.grpNI = true)

/-- a quiet, consistent RIB: counters = referrers, nothing dangles, nothing held -/
structure G (s : Rib) : Prop where
  inv : Inv s
  closed : C02.Closed s
  pend : s.pend = []

theorem staticOk_congr {s s' : Rib} (hn : s'.nis = s.nis) {k : EKey} {p : Payload} (h : StaticOk s k p) :
    StaticOk s' k p := by
  unfold StaticOk hasNI at *
  rw [hn]
  exact h

theorem StaticOk.not_fatal {s : Rib} {op : Op} {p : Payload} (hs : StaticOk s (op.ni, op.key) p)
    (hcls : op.cls = .wf) : ¬ fatal s op :=
  fun h => h.elim (fun h => nomatch hcls.symm.trans h) (· hs.1)

theorem StaticOk.valid {s : Rib} {op : Op} (hs : StaticOk s (op.ni, op.key) op.pl) (hcls : op.cls = .wf)
    (hty : op.ty ≠ .replace) : Valid s op := by
  obtain ⟨_, _, ni, key, pl, _, _⟩ := op
  obtain ⟨_, hs⟩ := hs
  cases key with
  | nh _ | nhg _ => exact ⟨hcls, hs, (absurd · hty), nofun⟩
  | v4 _ | v6 _ => exact ⟨hcls, hs.1, (absurd · hty), fun _ h => hs.2.resolve_left h⟩
  | mpls _ => exact ⟨hcls, hs.1, (absurd · hty), fun _ h => hs.2.1.resolve_left h⟩

theorem StaticOk.delValid {s : Rib} {op : Op} {p : Payload} (hs : StaticOk s (op.ni, op.key) p)
    (hcls : op.cls = .wf) : delValid op = true := by
  obtain ⟨_, hs⟩ := hs
  unfold Rib.delValid
  cases hk : op.key <;> simp only [hk] at hs <;> simp [hcls, hs]

def lvl : Key → Nat
  | .nh _ => 0
  | .nhg _ => 1
  | _ => 2

theorem lvl_lt_of_mem_refs {k tgt : EKey} {p : Payload} (h : tgt ∈ refs k p) : lvl tgt.2 < lvl k.2 := by
  obtain ⟨ni, key⟩ := k
  cases key <;> simp only [refs, List.mem_map, List.mem_singleton, List.not_mem_nil] at h
  case nhg => obtain ⟨_, _, rfl⟩ := h; exact Nat.zero_lt_one
  all_goals subst h; exact Nat.lt_succ_self 1

def inputOf (op : Op) : Rib.In := if op.ty = .delete then Rib.In.del op else Rib.In.add op []

/-- every operation of the list is programmed, one after the other, leading from `s` to `s'`:
each is answered with exactly its own success, no failure, no error -/
inductive Programs : Rib → List Op → Rib → Prop
  | nil (s : Rib) : Programs s [] s
  | cons {s s1 s2 : Rib} {op : Op} {rest : List Op} {o : Out} :
      Rib.step s (inputOf op) = some (s1, o) → o.oks = [op] → o.fails = [] → o.fatal = false →
      Programs s1 rest s2 → Programs s (op :: rest) s2

theorem Programs.append {s s1 s2 : Rib} {a b : List Op} (h1 : Programs s a s1) (h2 : Programs s1 b s2) :
    Programs s (a ++ b) s2 := by
  induction h1 with
  | nil s => exact h2
  | cons hs ho hf hx _ ih => exact Programs.cons hs ho hf hx (ih h2)

theorem classify_ok_of {s : Rib} (id : Nat) (e : EKey × Payload) (hs : StaticOk s e.1 e.2)
    (hr : entryResolved s.ents e.1 e.2 = true) : classify s (mkOp id .add e) = .ok :=
  classify_ok_iff.mpr ⟨StaticOk.valid hs rfl nofun, hr⟩

theorem add_step_op {s : Rib} (hg : G s) (op : Op) (hcls : op.cls = .wf) (hty : op.ty = .add)
    (hs : StaticOk s (op.ni, op.key) op.pl)
    (hr : entryResolved s.ents (op.ni, op.key) op.pl = true) :
    ∃ s', Programs s [op] s' ∧ G s' ∧ s'.nis = s.nis ∧ s'.ents = s.ents.insert (op.ni, op.key) op.pl := by
  have hc : classify s op = .ok := classify_ok_iff.mpr ⟨hs.valid hcls (hty ▸ nofun), hr⟩
  have hp : (prog s op op.id).1.pend = [] := by rw [prog_pend, hg.pend]; rfl
  -- nothing is held, so the empty cascade is the accepted one
  have h : Rib.add s op [] = some (prog s op op.id) := by
    rw [add_ok (hs.not_fatal hcls) hc]
    exact (if_pos (by rw [quiescent, hp]; rfl)).trans (by rw [Out.append_nil])
  have hstep := (show Rib.step s (inputOf op) = Rib.add s op [] by rw [inputOf, hty]; rfl).trans h
  exact ⟨_, .cons hstep rfl rfl rfl (.nil _),
    ⟨(C03.inv_add h hg.inv fun _ _ hh => nomatch hg.pend ▸ hh).1, C02.closed_add h hg.closed, hp⟩,
    prog_nis .., prog_ents ..⟩

theorem del_step_op {s : Rib} (hg : G s) (op : Op) (hcls : op.cls = .wf) (hty : op.ty = .delete) (p : Payload)
    (hget : s.ents.get? (op.ni, op.key) = some p) (hs : StaticOk s (op.ni, op.key) p)
    (hun : ∀ k q, s.ents.get? k = some q → (op.ni, op.key) ∉ refs k q) :
    ∃ s', Programs s [op] s' ∧ G s' ∧ s'.nis = s.nis ∧ s'.ents = s.ents.erase (op.ni, op.key) := by
  have h0 : guardCnt s op.ni op.key = 0 := hg.inv.guard_zero (t := (op.ni, op.key)) hun
  have hc : classifyDel s op = .ok := by
    rw [classifyDel_spec, hs.delValid hcls, Rib.has, Map.has, hget, h0]; rfl
  have hstep : Rib.step s (inputOf op) = some (Rib.del s op) := by rw [inputOf, if_pos hty]; rfl
  rw [del_ok (hs.not_fatal hcls) hc hget] at hstep
  exact ⟨_, .cons hstep rfl rfl rfl (.nil _),
    ⟨inv_remove hg.inv hget, C02.closed_remove hg.closed hg.inv p h0, (remove_frame ..).pend.trans hg.pend⟩,
    (remove_frame ..).nis, remove_ents ..⟩

def insAll (m : Ents) (L : List (EKey × Payload)) : Ents := L.foldl (fun m e => m.insert e.1 e.2) m

theorem entryResolved_insAll {m : Ents} (L : List (EKey × Payload)) {k : EKey} {p : Payload}
    (h : entryResolved m k p = true) : entryResolved (insAll m L) k p = true := by
  induction L generalizing m with
  | nil => exact h
  | cons e rest ih => exact ih (C02.entryResolved_mono (fun _ h => Map.has_insert_of_has h e.1 e.2) k p h)

/-- A run of ADDs of entries of a reference-closed `I`, towards contents `M` that hold every entry of
`I` (`hM`). Every key holds what `M` gives it or is a key of the run (`hcov`), and an entry whose key is
not installed yet comes after the entries of lower level (`hord`): so whatever an entry refers to
is there in time, and in the end the contents are `M`. -/
theorem insert_phase {I : Ents} (hc : ∀ k p, I.get? k = some p → entryResolved I k p = true)
    {M : EKey → Option Payload} (hM : ∀ k p, I.get? k = some p → M k = some p)
    (L : List (EKey × Payload)) {s : Rib} (hg : G s) (b : Nat)
    (hI : ∀ e ∈ L, I.get? e.1 = some e.2) (hs : ∀ e ∈ L, StaticOk s e.1 e.2)
    (hcov : ∀ k, s.ents.get? k = M k ∨ k ∈ L.map (·.1))
    (hord : L.Pairwise fun x y => s.ents.has y.1 = true ∨ lvl x.1.2 ≤ lvl y.1.2) :
    ∃ s', Programs s (number b (L.map fun e => (OpType.add, e))) s' ∧ G s' ∧ s'.nis = s.nis ∧
      ∀ k, s'.ents.get? k = M k := by
  induction L generalizing s b with
  | nil => exact ⟨s, .nil s, hg, rfl, fun k => (hcov k).resolve_right nofun⟩
  | cons e rest ih =>
    obtain ⟨hord1, hord2⟩ := List.pairwise_cons.mp hord
    have he := hI e List.mem_cons_self
    have hr : entryResolved s.ents e.1 e.2 = true := by
      refine entryResolved_iff.mpr fun tgt ht => ?_
      have hlt := lvl_lt_of_mem_refs ht
      obtain ⟨p, hp⟩ := Map.has_iff.mp (entryResolved_iff.mp (hc _ _ he) tgt ht)
      rcases hcov tgt with h | h
      · exact Map.has_of_get? (h.trans (hM tgt p hp))
      · obtain ⟨y, hy, rfl⟩ := List.mem_map.mp h
        rcases List.mem_cons.mp hy with rfl | hy
        · exact absurd hlt (Nat.lt_irrefl _)
        · exact (hord1 _ hy).resolve_right (Nat.not_le_of_lt hlt)
    obtain ⟨s1, hp1, hg1, hnis, (hents : s1.ents = s.ents.insert e.1 e.2)⟩ :=
      add_step_op hg (mkOp (b + 1) .add e) rfl rfl (hs e List.mem_cons_self) hr
    obtain ⟨s2, hp, hg2, hn2, he2⟩ := ih hg1 (b + 1)
      (fun x hx => hI x (List.mem_cons_of_mem _ hx))
      (fun x hx => staticOk_congr hnis (hs x (List.mem_cons_of_mem _ hx)))
      (fun k => by
        rw [hents, Map.get?_insert]
        split
        · next h => exact .inl (h ▸ (hM _ _ he).symm)
        · next hne => exact (hcov k).imp_right fun h => (List.mem_cons.mp h).resolve_left (Ne.symm hne))
      (hord2.imp fun h => h.imp_left fun h => hents ▸ Map.has_insert_of_has h _ _)
    exact ⟨s2, hp1.append hp, hg2, hn2.trans hnis, he2⟩

/-- A run of DELETEs of installed entries whose keys the reference-closed `I` lacks. Every key holds
what `I` gives it or is a key of the run (`hcov`), and the run descends in level (`hord`): so whoever
refers to an entry has gone before it, and in the end exactly `I` is left. -/
theorem delete_phase {I : Ents} (hc : ∀ k p, I.get? k = some p → entryResolved I k p = true)
    (L : List (EKey × Payload)) {s : Rib} (hg : G s) (b : Nat)
    (hget : ∀ e ∈ L, s.ents.get? e.1 = some e.2) (hs : ∀ e ∈ L, StaticOk s e.1 e.2)
    (hI : ∀ e ∈ L, I.get? e.1 = none)
    (hcov : ∀ k, s.ents.get? k = I.get? k ∨ k ∈ L.map (·.1))
    (hord : L.Pairwise fun x y => x.1 ≠ y.1 ∧ lvl y.1.2 ≤ lvl x.1.2) :
    ∃ s', Programs s (number b (L.map fun e => (OpType.delete, e))) s' ∧ G s' ∧ s'.ents ≃ₘ I := by
  induction L generalizing s b with
  | nil => exact ⟨s, .nil s, hg, fun k => (hcov k).resolve_right nofun⟩
  | cons e rest ih =>
    obtain ⟨hord1, hord2⟩ := List.pairwise_cons.mp hord
    have he := hI e List.mem_cons_self
    have hun : ∀ k q, s.ents.get? k = some q → e.1 ∉ refs k q := by
      intro k q hk href
      have hlt := lvl_lt_of_mem_refs href
      rcases hcov k with h | h
      · have := entryResolved_iff.mp (hc k q (h.symm.trans hk)) _ href
        rw [Map.has, he] at this
        cases this
      · obtain ⟨y, hy, rfl⟩ := List.mem_map.mp h
        rcases List.mem_cons.mp hy with rfl | hy
        · exact Nat.lt_irrefl _ hlt
        · exact Nat.not_le_of_lt hlt (hord1 _ hy).2
    obtain ⟨s1, hp1, hg1, hnis, (hents : s1.ents = s.ents.erase e.1)⟩ :=
      del_step_op hg (mkOp (b + 1) .delete e) rfl rfl e.2 (hget e List.mem_cons_self) (hs e List.mem_cons_self) hun
    obtain ⟨s2, hp, hg2, he2⟩ := ih hg1 (b + 1)
      (fun x hx => by rw [hents, Map.get?_erase_ne _ (hord1 x hx).1]; exact hget x (List.mem_cons_of_mem _ hx))
      (fun x hx => staticOk_congr hnis (hs x (List.mem_cons_of_mem _ hx)))
      (fun x hx => hI x (List.mem_cons_of_mem _ hx))
      (fun k => by
        rw [hents, Map.get?_erase]
        split
        · next h => exact .inl (h ▸ he.symm)
        · next hne => exact (hcov k).imp_right fun h => (List.mem_cons.mp h).resolve_left (Ne.symm hne))
      hord2
    exact ⟨s2, hp1.append hp, hg2, he2⟩

/-- the precondition of the convergence theorem: a quiet consistent target, an intended RIB that
is reference-closed, and entries on both sides that are statically valid on the target (in
particular every network instance the intended RIB uses exists on the target) -/
structure Pre (t : Rib) (I : Ents) : Prop where
  g : G t
  nodupI : Map.NoDupKeys I
  staticI : ∀ e ∈ I, StaticOk t e.1 e.2
  closedI : ∀ k p, I.get? k = some p → entryResolved I k p = true
  staticT : ∀ e ∈ t.ents, StaticOk t e.1 e.2

theorem lvl_filter (S : Ents) {x : EKey × Payload} :
    (x ∈ S.filter isNh → lvl x.1.2 = 0) ∧ (x ∈ S.filter isNhg → lvl x.1.2 = 1) ∧
      (x ∈ S.filter isTop → lvl x.1.2 = 2) := by
  obtain ⟨⟨ni, k⟩, p⟩ := x
  cases k <;> simp [isNh, isNhg, isTop, Key.isTop, lvl]

theorem ascending (S : Ents) :
    (S.filter isNh ++ S.filter isNhg ++ S.filter isTop).Pairwise fun x y => lvl x.1.2 ≤ lvl y.1.2 := by
  have h := @lvl_filter S
  have same : ∀ {n : Nat} {l : Ents}, (∀ {x}, x ∈ l → lvl x.1.2 = n) → l.Pairwise fun x y => lvl x.1.2 ≤ lvl y.1.2 :=
    fun hl => List.pairwise_of_forall_mem_list fun x hx y hy => by rw [hl hx, hl hy]; exact Nat.le_refl _
  refine List.pairwise_append.mpr ⟨List.pairwise_append.mpr ⟨same h.1, same h.2.1, fun x hx y hy => ?_⟩,
    same h.2.2, fun x hx y hy => ?_⟩
  · rw [h.1 hx, h.2.1 hy]; decide
  · rw [h.2.2 hy]
    rcases List.mem_append.mp hx with hx | hx
    · rw [h.1 hx]; decide
    · rw [h.2.1 hx]; decide

theorem installs_ordered (I T : Ents) :
    (installs (diff I T)).Pairwise fun x y => T.has y.1 = true ∨ lvl x.1.2 ≤ lvl y.1.2 := by
  -- the added entries ascend; the replaced ones are installed already, so may come in any order
  have hR : ∀ x : EKey × Payload, ∀ y ∈ (diff I T).replace.nh ++ ((diff I T).replace.nhg ++ (diff I T).replace.top),
      T.has y.1 = true ∨ lvl x.1.2 ≤ lvl y.1.2 := fun x y hy => by
    simp only [List.mem_append] at hy
    obtain ⟨_, p, hp, _⟩ := mem_toReplace.mp (mem_of.mpr hy)
    exact .inl (Map.has_of_get? hp)
  rw [show installs (diff I T) = ((diff I T).add.nh ++ (diff I T).add.nhg ++ (diff I T).add.top) ++
    ((diff I T).replace.nh ++ ((diff I T).replace.nhg ++ (diff I T).replace.top)) by simp only [installs, List.append_assoc]]
  exact List.pairwise_append.mpr ⟨(ascending _).imp Or.inr,
    List.pairwise_of_forall_mem_list fun x _ y hy => hR x y hy, fun x _ y hy => hR x y hy⟩

theorem removals_ordered {I T : Ents} (hT : Map.NoDupKeys T) :
    (removals (diff I T)).Pairwise fun x y => x.1 ≠ y.1 ∧ lvl y.1.2 ≤ lvl x.1.2 := by
  have h := @lvl_filter (toDelete I T)
  -- within a bucket the keys differ, as they do in `T`; from bucket to bucket the level falls
  have same : ∀ {n : Nat} {c}, (∀ {x}, x ∈ (toDelete I T).filter c → lvl x.1.2 = n) →
      ((toDelete I T).filter c).Pairwise fun x y => x.1 ≠ y.1 ∧ lvl y.1.2 ≤ lvl x.1.2 := fun hl =>
    (List.pairwise_map.mp (Map.nodup_filter (Map.nodup_filter hT _) _)).imp_of_mem fun hx hy hxy =>
      ⟨hxy, by rw [hl hx, hl hy]; exact Nat.le_refl _⟩
  have hlt : ∀ {x y : EKey × Payload}, lvl y.1.2 < lvl x.1.2 → x.1 ≠ y.1 ∧ lvl y.1.2 ≤ lvl x.1.2 :=
    fun hl => ⟨fun e => Nat.lt_irrefl _ (e ▸ hl), Nat.le_of_lt hl⟩
  refine List.pairwise_append.mpr ⟨List.pairwise_append.mpr ⟨same h.2.2, same h.2.1, fun x hx y hy => hlt ?_⟩,
    same h.1, fun x hx y hy => hlt ?_⟩
  · rw [h.2.2 hx, h.2.1 hy]; decide
  · rw [h.1 hy]
    rcases List.mem_append.mp hx with hx | hx
    · rw [h.2.2 hx]; decide
    · rw [h.2.1 hx]; decide

theorem installs_run {t : Rib} {I : Ents} (pre : Pre t I) {A : List (EKey × Payload)}
    (hA : ∀ e, e ∈ A ↔ e ∈ toAdd I t.ents ∨ e ∈ toReplace I t.ents)
    (hord : A.Pairwise fun x y => t.ents.has y.1 = true ∨ lvl x.1.2 ≤ lvl y.1.2) (b : Nat) :
    ∃ s, Programs t (number b (A.map fun e => (OpType.add, e))) s ∧ G s ∧ s.nis = t.nis ∧
      ∀ k, s.ents.get? k = (I.get? k).or (t.ents.get? k) := by
  have hI : ∀ e ∈ A, e ∈ I := fun e he => mem_of_install ((hA e).mp he)
  refine insert_phase pre.closedI (fun k p hp => by rw [hp]; rfl) A pre.g b
    (fun e he => Map.get?_of_mem_nodup pre.nodupI (hI e he)) (fun e he => pre.staticI e (hI e he)) (fun k => ?_) hord
  -- an entry of `I` that is not installed: the target lacks the key or holds another payload
  cases hp : I.get? k with
  | none => exact .inl rfl
  | some p =>
    have hmem := Map.get?_some_mem hp
    cases hT : t.ents.get? k with
    | none => exact .inr (List.mem_map.mpr ⟨_, (hA _).mpr (.inl (mem_toAdd.mpr ⟨hmem, hT⟩)), rfl⟩)
    | some q =>
      by_cases hq : q = p
      · exact .inl (hq ▸ rfl)
      · exact .inr (List.mem_map.mpr ⟨_, (hA _).mpr (.inr (mem_toReplace.mpr ⟨hmem, q, hT, hq⟩)), rfl⟩)

theorem removals_run {t : Rib} {I : Ents} (pre : Pre t I) {D : List (EKey × Payload)}
    (hD : ∀ e, e ∈ D ↔ e ∈ toDelete I t.ents)
    (hord : D.Pairwise fun x y => x.1 ≠ y.1 ∧ lvl y.1.2 ≤ lvl x.1.2) {sA : Rib} (b : Nat)
    (hgA : G sA) (hnA : sA.nis = t.nis) (heA : ∀ k, sA.ents.get? k = (I.get? k).or (t.ents.get? k)) :
    ∃ s', Programs sA (number b (D.map fun e => (OpType.delete, e))) s' ∧ G s' ∧ s'.ents ≃ₘ I := by
  have hdel : ∀ e ∈ D, e ∈ t.ents ∧ I.get? e.1 = none := fun e he => mem_toDelete.mp ((hD e).mp he)
  refine delete_phase pre.closedI D hgA b
    (fun e he => by rw [heA, (hdel e he).2]; exact Map.get?_of_mem_nodup pre.g.inv.nodup (hdel e he).1)
    (fun e he => staticOk_congr hnA (pre.staticT e (hdel e he).1))
    (fun e he => (hdel e he).2) (fun k => ?_) hord
  rw [heA]
  cases hI : I.get? k with
  | some p => exact .inl rfl
  | none =>
    cases hT : t.ents.get? k with
    | none => exact .inl rfl
    | some q => exact .inr (List.mem_map.mpr ⟨_, (hD _).mpr (mem_toDelete.mpr ⟨Map.get?_some_mem hT, hI⟩), rfl⟩)

/-- the general form of C15: the installs (`A`) in any order in which a new key comes after the new keys
of lower level, then the removals (`D`) in any order that descends in level — so the order inside a
bucket, which Go leaves to map iteration, is free -/
theorem converges_ordered {t : Rib} {I : Ents} (pre : Pre t I) {A D : List (EKey × Payload)}
    (hA : ∀ e, e ∈ A ↔ e ∈ toAdd I t.ents ∨ e ∈ toReplace I t.ents)
    (hAord : A.Pairwise fun x y => t.ents.has y.1 = true ∨ lvl x.1.2 ≤ lvl y.1.2)
    (hD : ∀ e, e ∈ D ↔ e ∈ toDelete I t.ents)
    (hDord : D.Pairwise fun x y => x.1 ≠ y.1 ∧ lvl y.1.2 ≤ lvl x.1.2) (base : Nat) :
    ∃ t', Programs t (number base ((A.map fun e => (OpType.add, e)) ++ D.map fun e => (OpType.delete, e))) t' ∧
      G t' ∧ t'.ents ≃ₘ I := by
  obtain ⟨sA, pA, gA, nA, eA⟩ := installs_run pre hA hAord base
  obtain ⟨sD, pD, gD, eD⟩ := removals_run pre hD hDord (base + A.length) gA nA eA
  rw [number_append, List.length_map]
  exact ⟨sD, pA.append pD, gD, eD⟩

theorem c15_programs {t : Rib} {I : Ents} (pre : Pre t I) (base : Nat) :
    ∃ t', Programs t (ops I t.ents base) t' ∧ G t' ∧ t'.ents ≃ₘ I :=
  converges_ordered pre (fun _ => mem_installs) (installs_ordered I t.ents) (fun _ => mem_removals)
    (removals_ordered pre.g.inv.nodup) base

def Answered (op : Op) (o : Out) : Prop := o.oks = [op] ∧ o.fails = [] ∧ o.fatal = false

def AllAnswered : List Op → List Out → Prop
  | [], [] => True
  | op :: l, o :: os => Answered op o ∧ AllAnswered l os
  | _, _ => False

theorem programs_run {s s' : Rib} {l : List Op} (h : Programs s l s') :
    ∃ outs, Rib.run s (inputs l) = some (s', outs) ∧ AllAnswered l outs := by
  induction h with
  | nil s => exact ⟨[], rfl, trivial⟩
  | cons hs ho hf hx _ ih =>
    obtain ⟨outs, hr, hall⟩ := ih
    exact ⟨_ :: outs, run_cons.mpr ⟨_, _, _, hs, hr, rfl⟩, ⟨ho, hf, hx⟩, hall⟩

/-- **C15 (convergence).** Let the target `t` be quiet and consistent (counters = referrers,
nothing dangling, nothing held), let the intended contents `I` be reference-closed with distinct
keys, and let the entries of both sides be statically valid on the target (so every network
instance the intended RIB uses exists there). Then sending the reconciler's operations in the
documented order — added next-hops, groups, top-level entries; replaces; deletes of top-level
entries, groups, next-hops — to the target's `AddEntry` / `DeleteEntry`, with reference checking
on, succeeds operation by operation (each answered with exactly its own success) and leaves
contents equal to the intended contents in every network instance, nothing held, counters and
closure intact. -/
theorem c15_converges {t : Rib} {I : Ents} (pre : Pre t I) (base : Nat) :
    ∃ t' outs, Rib.run t (inputs (ops I t.ents base)) = some (t', outs) ∧
      AllAnswered (ops I t.ents base) outs ∧
      t'.ents ≃ₘ I ∧ t'.pend = [] ∧ Inv t' ∧ C02.Closed t' := by
  obtain ⟨t', hp, hg, he⟩ := c15_programs pre base
  -- what follows holds of any list; with `ops …` in its place, `AllAnswered (ops …) outs` as an
  -- expected type makes the elaborator unfold `ops`
  generalize ops I t.ents base = l at hp ⊢
  obtain ⟨outs, hr, hall⟩ := programs_run hp
  exact ⟨t', outs, hr, hall, he, hg.pend, hg.inv, hg.closed⟩

theorem closed_of_forall_mem {I : Ents} (h : ∀ e ∈ I, entryResolved I e.1 e.2 = true) :
    ∀ k p, I.get? k = some p → entryResolved I k p = true :=
  fun k p hg => h (k, p) (Map.get?_some_mem hg)

/-- the hypotheses are satisfiable by a non-trivial instance: an empty target with two
instances, and an intended RIB holding a chain (next-hop, group, prefix in another instance) -/
example : Pre ({ (Rib.new "DEFAULT") with nis := ["DEFAULT", "VRF1"] })
    [(("DEFAULT", Key.nh 1), {}), (("DEFAULT", Key.nhg 1), { nhs := [1] }),
     (("VRF1", Key.v4 "1.0.0.0/8"), { grp := 1, grpNI := "DEFAULT" })] := by
  refine ⟨⟨⟨Map.nodup_nil, fun _ _ h => (nomatch h), fun _ _ => rfl, fun _ _ => rfl⟩, fun _ _ h => (nomatch h), rfl⟩,
    by simp [Map.NoDupKeys, Map.keys], fun e he => ?_, closed_of_forall_mem (by decide), fun _ h => (nomatch h)⟩
  simp only [List.mem_cons, List.not_mem_nil, or_false] at he
  rcases he with rfl | rfl | rfl <;> simp [StaticOk, Rib.hasNI]

end Gribi.C15
