/-
C16 — Change-notification hooks mirror the RIB.

A consumer that folds the post-change notifications (ADD carries the new entry, DELETE the
removed one; a DELETE of a key that was not installed carries no entry and is a no-op)
reconstructs exactly the installed entries, whatever the change came from (Modify,
resolution of a held operation, Flush) and whenever the network instance was created.
-/
import Gribi.Lemmas.RibStep
import Gribi.Props.C03
namespace Gribi.C16
open Gribi Rib

/-- what the consumer does with one notification -/
def foldHook (m : Map EKey Payload) : HookEv → Map EKey Payload
  | .add ni k p => m.insert (ni, k) p
  | .del ni k (some _) => m.erase (ni, k)
  | .del _ _ none => m

def foldHooks (m : Map EKey Payload) (l : List HookEv) : Map EKey Payload := l.foldl foldHook m

theorem foldHooks_append (m : Map EKey Payload) (a b : List HookEv) :
    foldHooks m (a ++ b) = foldHooks (foldHooks m a) b := by
  simp [foldHooks, List.foldl_append]

theorem foldHooks_adds (l : List Op) (m : Map EKey Payload) :
    foldHooks m (l.map fun op => .add op.ni op.key op.pl) = l.foldl (fun m op => m.insert (op.ni, op.key) op.pl) m := by
  induction l generalizing m with
  | nil => rfl
  | cons op t ih => exact ih _

theorem foldHooks_dels (ni : NI) (l : List (EKey × Payload)) (hl : ∀ e ∈ l, e.1.1 = ni) (m : Map EKey Payload) :
    foldHooks m (l.map fun e => HookEv.del ni e.1.2 (some e.2)) = (l.map (·.1)).foldl Map.erase m := by
  induction l generalizing m with
  | nil => rfl
  | cons e t ih =>
    have : (ni, e.1.2) = e.1 := by rw [← hl e List.mem_cons_self]
    simp only [List.map_cons, foldHooks, List.foldl_cons, foldHook, this]
    exact ih (fun e' h' => hl e' (List.mem_cons_of_mem _ h')) _

theorem flushNI_hooks (s : Rib) (ni : NI) (hh : s.hook = true) :
    (flushNI s ni).1.ents = foldHooks s.ents (flushNI s ni).2 := by
  have hl : ∀ e ∈ s.entsOf ni, e.1.1 = ni := fun e he => by simpa using (List.mem_filter.mp he).2
  rw [flushNI_ents, flushNI]
  simp only [hh, if_true]
  rw [foldHooks_dels ni _ hl, Map.foldl_erase]
  -- an installed key is among the flushed ones exactly when its instance is `ni`
  refine List.filter_congr fun e he => ?_
  have : e.1 ∈ (s.entsOf ni).map (·.1) ↔ e.1.1 = ni :=
    ⟨fun h => by obtain ⟨e', he', h⟩ := List.mem_map.mp h; exact h ▸ hl e' he',
     fun h => List.mem_map.mpr ⟨e, List.mem_filter.mpr ⟨he, by simpa using h⟩, rfl⟩⟩
  simp only [this, decide_not]
  rfl

theorem flush_hooks (s : Rib) (nis : List NI) (hh : s.hook = true) :
    (flush s nis).1.ents = foldHooks s.ents (flush s nis).2 := by
  induction nis generalizing s with
  | nil => rfl
  | cons ni rest ih => rw [flush_cons, foldHooks_append, ih _ ((flushNI_hook s ni).trans hh), flushNI_hooks s ni hh]

theorem step_hooks {s s' : Rib} {i : Rib.In} {o : Out} (h : Step s i s' o) (hh : s.hook = true) :
    s'.ents = foldHooks s.ents o.hooks := by
  cases h with
  | add ha => rw [ha.hooks, hh, if_pos rfl, foldHooks_adds]; exact ha.frame.ents
  | del hd => cases hd <;> simp [hh, foldHooks, foldHook]
  | flush nis => exact flush_hooks s nis hh
  | addNI ni => exact addNI_ents ..
  | setHook => rfl

def allHooks : List Out → List HookEv
  | [] => []
  | o :: os => o.hooks ++ allHooks os

/-- the mirror as an equation of lists; neither the counters nor the held operations matter -/
theorem mirror_eq {s s' : Rib} {ins : List Rib.In} {outs : List Out}
    (h : run s ins = some (s', outs)) (hh : s.hook = true) : s'.ents = foldHooks s.ents (allHooks outs) := by
  induction ins generalizing s outs with
  | nil => obtain ⟨rfl, rfl⟩ := run_nil.mp h; rfl
  | cons i rest ih =>
    obtain ⟨s1, o, os, h1, h2, rfl⟩ := run_cons.mp h
    have hs := Step.of_step h1
    rw [allHooks, foldHooks_append, ih h2 (hs.grows.hook hh), step_hooks hs hh]

/-- **C16 (mirror).** From any reachable state in which the hook is registered, folding the
notifications of any accepted history over the contents at registration time gives exactly
the final contents — in every network instance, whenever it was created. -/
theorem c16_mirror {s s' : Rib} {ins : List Rib.In} {outs : List Out}
    (h : run s ins = some (s', outs)) (hh : s.hook = true) (hi : Inv s) (hp : C03.PendNI s) :
    s'.ents ≃ₘ foldHooks s.ents (allHooks outs) :=
  mirror_eq h hh ▸ .refl _

/-- registering the hook on a fresh RIB and then running any history: the fold of all
notifications is the final contents -/
theorem c16_mirror_from_new (d : NI) (f : Bool) {s' : Rib} {ins : List Rib.In} {outs : List Out}
    (h : run (Rib.new d f).setHook ins = some (s', outs)) :
    s'.ents ≃ₘ foldHooks [] (allHooks outs) :=
  mirror_eq h rfl ▸ .refl _

theorem flush_silent (s : Rib) (nis : List NI) (hh : s.hook = false) : (flush s nis).2 = [] := by
  induction nis generalizing s with
  | nil => rfl
  | cons ni rest ih => rw [flush_cons, ih _ ((flushNI_hook s ni).trans hh), flushNI, hh]; rfl

/-- before registration nothing is notified -/
theorem c16_silent_before {s s' : Rib} {i : Rib.In} {o : Out} (h : step s i = some (s', o))
    (hh : s.hook = false) : o.hooks = [] ∨ i = .setHook := by
  cases Step.of_step h with
  | add ha => rw [ha.hooks, hh]; exact .inl rfl
  | del hd => cases hd <;> simp [hh]
  | flush nis => exact .inl (flush_silent s nis hh)
  | addNI ni => exact .inl rfl
  | setHook => exact .inr rfl

end Gribi.C16
