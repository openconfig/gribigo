/-
C17 — chk assertion helpers pass exactly when the expected item is present.

Stated on the model `Gribi.Chk` (Model/Chk.lean). That the helpers' code computes the model is the
tie by translation: `GenEquiv/ChkCache`, `ChkGet`, `ChkErr`, `ChkStatus`.
-/
import Gribi.Model.Chk
namespace Gribi.C17
open Gribi.Chk

theorem any_some {α : Type} (l : List (Option α)) (f : Option α → Bool) (hf : f none = false) :
    l.any f = true ↔ ∃ a, some a ∈ l ∧ f (some a) = true := by
  rw [List.any_eq_true]
  exact ⟨fun ⟨x, hx, h⟩ => by cases x with | none => cases hf.symm.trans h | some a => exact ⟨a, hx, h⟩,
    fun ⟨a, ha, h⟩ => ⟨some a, ha, h⟩⟩

/-- **C17 (HasResult).** Passes iff some given result equals the wanted one outside the
documented ignore set. -/
theorem c17_hasResult_iff (res : List (Option OpRes)) (w : OpRes) (o : Opts) :
    hasResult res w o = true ↔ ∃ r, some r ∈ res ∧ eqModulo o r w = true :=
  any_some res _ rfl

/-- what `eqModulo` compares of the two fields the cache indexes by -/
theorem eqModulo_keys {o : Opts} {r w : OpRes} (h : eqModulo o r w = true) :
    (w.details = none ∨ r.details = w.details) ∧ (o.ignoreOpId = true ∨ r.opId = w.opId) := by
  unfold eqModulo at h
  simp only [Bool.and_eq_true, Bool.or_eq_true, beq_iff_eq, Option.isNone_iff_eq_none] at h
  exact h.1.1.1.1.1

theorem lastBy_mem {κ : Type} [DecidableEq κ] (res : List OpRes) (key : OpRes → Option κ) (k : κ) (r : OpRes)
    (h : lastBy res key k = some r) : r ∈ res ∧ key r = some k :=
  ⟨List.mem_reverse.mp (List.mem_of_find?_eq_some h), eq_of_beq (List.find?_some (p := fun r => key r == some k) h)⟩

theorem hasResult_lastBy {κ : Type} [DecidableEq κ] (res : List OpRes) (key : OpRes → Option κ) (k : κ) (w : OpRes)
    (o : Opts) (h : hasResult [lastBy res key k] w o = true) : hasResult (res.map some) w o = true := by
  obtain ⟨r, hr, he⟩ := (c17_hasResult_iff ..).mp h
  exact (c17_hasResult_iff ..).mpr ⟨r, List.mem_map_of_mem (lastBy_mem res key k r (List.mem_singleton.mp hr).symm).1, he⟩

/-- **C17 (cache is sound).** The cached checker never passes where the plain one fails:
whenever `HasResultsCache` passes, every wanted result is found by `HasResult` in the full list.
In particular a wanted IPv6 or MPLS result that is absent makes it fail. -/
theorem c17_cache_sound (res wants : List OpRes) (o : Opts) (h : hasResultsCache res wants o = true) :
    ∀ w ∈ wants, hasResult (res.map some) w o = true := by
  intro w hw
  unfold hasResultsCache at h
  split at h <;> have h := List.all_eq_true.mp h w hw
  · exact hasResult_lastBy _ _ _ _ _ h
  · -- a want without details, or whose details name no key, fails
    split at h
    · cases h
    · split at h
      · cases h
      · exact hasResult_lastBy _ _ _ _ _ h

/-- results filed under the same key are equal: the index, which keeps the last of them, then loses none -/
def UniqueBy {κ : Type} [DecidableEq κ] (res : List OpRes) (key : OpRes → Option κ) : Prop :=
  ∀ r1 ∈ res, ∀ r2 ∈ res, ∀ k, key r1 = some k → key r2 = some k → r1 = r2

theorem lastBy_of_unique {κ : Type} [DecidableEq κ] (res : List OpRes) (key : OpRes → Option κ)
    (hu : UniqueBy res key) (r : OpRes) (hr : r ∈ res) (k : κ) (hk : key r = some k) :
    lastBy res key k = some r := by
  cases hf : lastBy res key k with
  | none => exact absurd (beq_of_eq hk) (List.find?_eq_none.mp hf r (List.mem_reverse.mpr hr))
  | some x =>
    have hx := lastBy_mem res key k x hf
    exact congrArg some (hu x hx.1 r hr k hx.2 hk)

theorem hasResult_lastBy_of_unique {κ : Type} [DecidableEq κ] (res : List OpRes) (key : OpRes → Option κ)
    (hu : UniqueBy res key) (k : κ) (w : OpRes) (o : Opts) (hk : ∀ r, eqModulo o r w = true → key r = some k)
    (h : hasResult (res.map some) w o = true) : hasResult [lastBy res key k] w o = true := by
  obtain ⟨r, hr, he⟩ := (c17_hasResult_iff ..).mp h
  obtain ⟨r', hr', e⟩ := List.mem_map.mp hr
  cases e
  rw [lastBy_of_unique res key hu r hr' k (hk r he)]
  exact (c17_hasResult_iff ..).mpr ⟨r, List.mem_singleton.mpr rfl, he⟩

/-- **C17 (cache agrees when keys are unique), by operation id.** -/
theorem c17_cache_complete_by_id (res wants : List OpRes) (o : Opts) (hi : o.ignoreOpId = false)
    (hu : UniqueBy res (fun r => some r.opId))
    (h : ∀ w ∈ wants, hasResult (res.map some) w o = true) : hasResultsCache res wants o = true := by
  unfold hasResultsCache
  rw [hi]
  refine List.all_eq_true.mpr fun w hw => hasResult_lastBy_of_unique res _ hu _ w o (fun r he => ?_) (h w hw)
  exact congrArg some ((eqModulo_keys he).2.resolve_left (hi ▸ Bool.false_ne_true))

/-- **C17 (cache agrees when keys are unique), ignoring operation ids.** Every want must carry
details naming a key (the helper reports a test error otherwise). -/
theorem c17_cache_complete_by_key (res wants : List OpRes) (o : Opts) (hi : o.ignoreOpId = true)
    (hu : UniqueBy res (fun r => r.details.bind dkey))
    (hk : ∀ w ∈ wants, ∃ d k, w.details = some d ∧ dkey d = some k)
    (h : ∀ w ∈ wants, hasResult (res.map some) w o = true) : hasResultsCache res wants o = true := by
  unfold hasResultsCache
  rw [hi]
  refine List.all_eq_true.mpr fun w hw => ?_
  obtain ⟨d, k, hd, hkk⟩ := hk w hw
  simp only [hd, hkk]
  refine hasResult_lastBy_of_unique res _ hu _ w o (fun r he => ?_) (h w hw)
  rw [(eqModulo_keys he).1.resolve_left (hd ▸ nofun), hd, Option.bind_some, hkk]

/-- **C17 (Get responses).** Passes iff every wanted entry names an instance and a kind, its
instance occurs in the response, and an entry of that kind and key in that instance is present
(keys 0 and "" are never indexed — the guard of the code, stated). -/
theorem c17_get_iff (resp wants : List GEntry) :
    getResponseHasEntries resp wants = true ↔
      ∀ w ∈ wants, w.ni ≠ "" ∧ w.kind ≠ .other ∧ (∃ e ∈ resp, e.ni = w.ni) ∧
        ∃ e ∈ resp, indexable e = true ∧ e.ni = w.ni ∧ e.kind = w.kind ∧ e.key = w.key := by
  simp only [getResponseHasEntries, List.all_eq_true, List.any_eq_true, Bool.and_eq_true, decide_eq_true_eq, beq_iff_eq,
    and_assoc]

/-- **C17 (no kind is accepted without being looked up).** An absent wanted entry of any
kind — IPv6 and MPLS included — makes the helper fail. -/
theorem c17_no_vacuous (resp : List GEntry) (w : GEntry) (wants : List GEntry) (hw : w ∈ wants)
    (habs : ∀ e ∈ resp, ¬ (e.ni = w.ni ∧ e.kind = w.kind ∧ e.key = w.key)) :
    getResponseHasEntries resp wants = false := by
  refine Bool.eq_false_iff.mpr fun h => ?_
  obtain ⟨_, _, _, ⟨e, he, _, a, b, c⟩⟩ := (c17_get_iff resp wants).mp h w hw
  exact habs e he ⟨a, b, c⟩

/-- **C17 (error counts).** -/
theorem c17_counts (e : CErr) (n : Nat) :
    (hasNSendErrors e n = true ↔
      (e matches .nil ∧ n = 0) ∨ ∃ s r, e = .clientErr s r ∧ s = n) ∧
    (hasNRecvErrors e n = true ↔
      (e matches .nil ∧ n = 0) ∨ ∃ s r, e = .clientErr s r ∧ r.length = n) := by
  cases e with
  | nil => simp [hasNSendErrors, hasNRecvErrors]
  | other => simp [hasNSendErrors, hasNRecvErrors]
  | clientErr s r =>
    have ex (p : Nat → List (Option St) → Prop) : p s r ↔ ∃ s' r', CErr.clientErr s r = .clientErr s' r' ∧ p s' r' :=
      ⟨fun h => ⟨s, r, rfl, h⟩, fun ⟨_, _, e, h⟩ => by cases e; exact h⟩
    simp only [hasNSendErrors, hasNRecvErrors, beq_iff_eq, reduceCtorEq, false_and, false_or]
    exact ⟨ex fun s _ => s = n, ex fun _ r => r.length = n⟩

theorem plain_match (s want : St) :
    ((if want.msg == "" then { s with msg := "" } else s) == want) = true ↔
      s.code = want.code ∧ s.det = want.det ∧ (want.msg = "" ∨ s.msg = want.msg) := by
  rcases s with ⟨c, m, d⟩
  rcases want with ⟨c', m', d'⟩
  by_cases hm : m' = "" <;> simp [hm, and_comm]

/-- **C17 (status).** Without options the helper passes iff some receive error is a status with
the wanted code and details, and the wanted message when one is given -/
theorem c17_status_plain (send : Nat) (recv : List (Option St)) (want : St) :
    hasRecvStatus (.clientErr send recv) want false false = true ↔
      ∃ s, some s ∈ recv ∧ s.code = want.code ∧ s.det = want.det ∧ (want.msg = "" ∨ s.msg = want.msg) := by
  refine (any_some recv _ rfl).trans (exists_congr fun s => and_congr_right fun _ => ?_)
  -- without options the one acceptable status is `want`, and the details are kept
  show ((_ == want) || false) = true ↔ _
  rw [Bool.or_false]
  exact plain_match s want

/-- a non-ClientErr error, or no error at all, never satisfies a status want -/
theorem c17_status_needs_clienterr (want : St) (a b : Bool) :
    hasRecvStatus .nil want a b = false ∧ hasRecvStatus .other want a b = false := ⟨rfl, rfl⟩

/-- non-vacuity -/
example :
    let r6 : OpRes := { opId := 3, prog := 3, details := some { ty := 1, v6 := "2001:db8::/32" } }
    let rm : OpRes := { opId := 4, prog := 3, details := some { ty := 1, mpls := 100 } }
    let w6 : OpRes := { opId := 0, prog := 3, details := some { ty := 1, v6 := "2001:db8:1::/48" } }
    hasResultsCache [r6, rm] [w6] { ignoreOpId := true } = false ∧
    hasResultsCache [r6, rm] [{ r6 with opId := 9 }, { rm with opId := 0 }] { ignoreOpId := true } = true ∧
    getResponseHasEntries [⟨"D", .v6, "2001:db8::/32"⟩] [⟨"D", .mpls, "100"⟩] = false := by decide +kernel

end Gribi.C17
