/-
C18 — Fluent builders emit exactly what was set; unique ids; current election id.

The builders are modelled field by field (`Model/Fluent.lean`); the rendering of `OpProto`,
`EntryProto` and of every queued ModifyRequest is compared pair by pair with the real protobufs
on random programs (correspondence). Proved here: the client-side guarantees — ids, operation
type, election stamping — for one call in any client state (what a call does to that state is
`modify_count` and `c18_update`; the generated code's runs are in `GenEquiv/FluentModify.lean`),
and the frame/last-write laws of the builder calls.
-/
import Gribi.Model.Fluent
namespace Gribi.C18
open Gribi.Fluent

/-- ids assigned by one `AddEntry`/`ReplaceEntry`/`DeleteEntry` call -/
def idsOf (fs : List Fields) : List (Option String) := fs.map (fun f => (f.find? (fun e => e.1 == "id")).map (·.2))

theorem modify_eq (c : Client) (ty : Nat) (es : List Entry) :
    c.modify ty es = ({ c with opCount := c.opCount + es.length },
      es.mapIdx (fun k e => opFields (c.opCount + k + 1) ty e (stampOf c e))) := by
  induction es generalizing c with
  | nil => rfl
  | cons e rest ih =>
    simp only [Client.modify, ih, List.mapIdx_cons, List.length_cons]
    simp only [Nat.add_assoc, Nat.add_comm 1]
    rfl

theorem modify_count (c : Client) (ty : Nat) (es : List Entry) :
    (c.modify ty es).1.opCount = c.opCount + es.length ∧ (c.modify ty es).2.length = es.length ∧
    (c.modify ty es).1.curElec = c.curElec ∧ (c.modify ty es).1.elected = c.elected := by
  rw [modify_eq]; exact ⟨rfl, List.length_mapIdx, rfl, rfl⟩

/-- **C18 (stamping).** In elected-primary mode an operation built from an entry without its own
election id carries the id most recently set on the client; an entry's own id wins; outside
elected-primary mode nothing is stamped. Every operation of a call, since a call changes neither
the mode nor the current id: -/
theorem c18_stamp_all (c : Client) (ty : Nat) (es : List Entry) (k : Nat) (hk : k < es.length) :
    (c.modify ty es).2[k]? = some (opFields (c.opCount + k + 1) ty es[k] (stampOf c es[k])) := by
  rw [modify_eq, List.getElem?_mapIdx, List.getElem?_eq_getElem hk]; rfl

theorem c18_stamp_head (c : Client) (ty : Nat) (e : Entry) (rest : List Entry) :
    (c.modify ty (e :: rest)).2.head? = some (opFields (c.opCount + 1) ty e (stampOf c e)) := by
  rw [modify_eq, List.mapIdx_cons]; rfl

/-- **C18 (ids).** The k-th operation of a call gets id `opCount + k + 1`, rendered by `toString`:
the numbers are strictly increasing and continue across calls of any kind (the counter is the
only state). -/
theorem c18_ids (c : Client) (ty : Nat) (es : List Entry) (k : Nat) (hk : k < es.length) :
    ∃ f, (c.modify ty es).2[k]? = some f ∧ ("id", toString (c.opCount + k + 1)) ∈ f :=
  ⟨_, c18_stamp_all c ty es k hk, List.mem_cons_self ..⟩

/-- the first id of a fresh client is 1 -/
example : ((({} : Client).modify 1 [.nh {}, .nh {}]).2.map (fun f => f.head?)) = [some ("id", "1"), some ("id", "2")] := by
  decide

/-- **C18 (operation type).** Every operation of a call carries the requested type. -/
theorem c18_optype (c : Client) (ty : Nat) (es : List Entry) :
    ∀ f ∈ (c.modify ty es).2, ("op", "e" ++ toString ty) ∈ f := by
  rw [modify_eq]
  intro f hf
  obtain ⟨k, hk, rfl⟩ := List.mem_mapIdx.mp hf
  simp [opFields]

/-- `UpdateElectionID` changes the id used for all later stamping, and nothing else -/
theorem c18_update (c : Client) (lo hi : Nat) :
    (c.updateElection lo hi).1.curElec = some (lo, hi) ∧ (c.updateElection lo hi).1.opCount = c.opCount ∧
    (c.updateElection lo hi).1.elected = c.elected := ⟨rfl, rfl, rfl⟩

/-- **C18 (builders: last write wins, nothing else changes).** Each `With*` call of the IPv4 /
IPv6 builder sets exactly its field. -/
theorem c18_top_frame (b : TopB) (call : TopCall) :
    (match call with
     | .prefix_ p => (b.apply call).pfx = p ∧ (b.apply call).ni = b.ni ∧ (b.apply call).nhg = b.nhg ∧ (b.apply call).nhgNI = b.nhgNI ∧ (b.apply call).metadata = b.metadata ∧ (b.apply call).elec = b.elec
     | .ni n => (b.apply call).ni = n ∧ (b.apply call).pfx = b.pfx ∧ (b.apply call).nhg = b.nhg ∧ (b.apply call).nhgNI = b.nhgNI ∧ (b.apply call).metadata = b.metadata ∧ (b.apply call).elec = b.elec
     | .nhg g => (b.apply call).nhg = some g ∧ (b.apply call).pfx = b.pfx ∧ (b.apply call).ni = b.ni ∧ (b.apply call).nhgNI = b.nhgNI ∧ (b.apply call).metadata = b.metadata ∧ (b.apply call).elec = b.elec
     | .nhgNI n => (b.apply call).nhgNI = some n ∧ (b.apply call).pfx = b.pfx ∧ (b.apply call).ni = b.ni ∧ (b.apply call).nhg = b.nhg ∧ (b.apply call).metadata = b.metadata ∧ (b.apply call).elec = b.elec
     | .metadata h => (b.apply call).metadata = some h ∧ (b.apply call).pfx = b.pfx ∧ (b.apply call).ni = b.ni ∧ (b.apply call).nhg = b.nhg ∧ (b.apply call).nhgNI = b.nhgNI ∧ (b.apply call).elec = b.elec
     | .elec lo hi => (b.apply call).elec = some (lo, hi) ∧ (b.apply call).pfx = b.pfx ∧ (b.apply call).ni = b.ni ∧ (b.apply call).nhg = b.nhg ∧ (b.apply call).nhgNI = b.nhgNI ∧ (b.apply call).metadata = b.metadata) := by
  cases call <;> simp [TopB.apply]

/-- next-hop-group builder: `AddNextHop` accumulates in call order and leaves id and backup alone -/
theorem c18_nhg_accumulates (b : NhgB) (calls : List (Nat × Nat)) :
    (calls.foldl (fun b c => b.apply (.addNh c.1 c.2)) b).nhs = b.nhs ++ calls ∧
    (calls.foldl (fun b c => b.apply (.addNh c.1 c.2)) b).id = b.id ∧
    (calls.foldl (fun b c => b.apply (.addNh c.1 c.2)) b).backup = b.backup := by
  induction calls generalizing b with
  | nil => exact ⟨(List.append_nil _).symm, rfl, rfl⟩
  | cons c rest ih =>
    obtain ⟨h1, h2, h3⟩ := ih (b.apply (.addNh c.1 c.2))
    exact ⟨h1.trans (List.append_assoc b.nhs [c] rest), h2, h3⟩

/-- next-hop builder: an interface reference replaces a previous (sub)interface reference whole -/
theorem c18_nh_ifref_resets (b : NhB) (n : String) :
    (b.apply (.ifRef n)).ifName = some n ∧ (b.apply (.ifRef n)).subIf = none ∧ (b.apply (.ifRef n)).ip = b.ip :=
  ⟨rfl, rfl, rfl⟩

/-- encapsulation headers accumulate in the order they were added, across calls (`encapsRender`
numbers them 1, 2, … by position) -/
theorem c18_encap_accumulates (b : NhB) (h1 h2 : List Hdr) :
    ((b.apply (.addEncap h1)).apply (.addEncap h2)).encaps = b.encaps ++ h1 ++ h2 := by
  -- a call without headers leaves the builder as it is, and appends nothing
  have one (b : NhB) (h : List Hdr) : (b.apply (.addEncap h)).encaps = b.encaps ++ h := by
    cases h with
    | nil => exact (List.append_nil _).symm
    | cons => rfl
  rw [one, one]

end Gribi.C18
