/-
C19 — the server-side fact that order independence of the compliance suite rests on.

The test programs themselves are not modelled (see DESIGN.md). What is proved here, on the server
model: a long-lived server whose contents and sessions equal those of another server, and which
differs from it only in the election register (the highest id learnt and its holder — all that
survives a disconnect and a flush besides contents), answers every client exactly like the other
one, provided the client does what every compliance test does: before any operation or id-bearing
Flush it announces an election id that is not lower than anything the server has seen
(`compliance` draws its ids from a counter that only grows), and until then sends only messages
whose answer does not depend on the register. After that announcement the two servers are equal,
so everything afterwards is answered identically.
-/
import Gribi.Model.Server
namespace Gribi.C19
open Gribi Server

def withReg (s : Server) (x : Option U128) (y : Option Nat) : Server := { s with curElec := x, curMaster := y }

/-- events whose outcome does not depend on the election register -/
def Agnostic : Ev → Prop
  | .connect _ => True
  | .close _ => True
  | .get _ _ => True
  | .msg _ (.params _ _ _) => True
  | .msg _ .multi => True
  | .msg _ .empty => True
  | .flush _ .override => True
  | _ => False

theorem doParams_withReg (s : Server) (x : Option U128) (y : Option Nat) (c : Nat) (cs : Sess) (red pers ack : Nat) :
    doParams (withReg s x y) c cs red pers ack =
      (withReg (doParams s c cs red pers ack).1 x y, (doParams s c cs red pers ack).2) := by
  -- the tests of `doParams` read the session table only: push the change of register through them
  show _ = (fun p : Server × MsgOut => (withReg p.1 x y, p.2)) _
  unfold doParams
  simp only [apply_ite (fun p : Server × MsgOut => (withReg p.1 x y, p.2))]
  rfl

theorem finish_withReg (c : Nat) (r : Server × MsgOut) (x : Option U128) (y : Option Nat) :
    finish c (withReg r.1 x y, r.2) = (withReg (finish c r).1 x y, (finish c r).2) := by
  unfold finish
  simp only
  split <;> rfl

theorem step_withReg (s : Server) (x : Option U128) (y : Option Nat) (ev : Ev) (h : Agnostic ev) :
    step (withReg s x y) ev = (step s ev).map (fun r => (withReg r.1 x y, r.2)) := by
  cases ev with
  | connect | close | get => rfl
  | flush ni el =>
    cases el with
    | unset | id => exact h.elim
    | override =>
      cases ni with
      | unset | all => rfl
      | name n => by_cases hn : s.rib.hasNI n = true <;> simp [step, Server.flush, checkFlush, withReg, hn]
  | msg c m =>
    simp only [step, recv]
    -- the two servers have the same session table
    show Option.map _ (match s.sess.get? c with | none => _ | some cs => _) = _
    cases s.sess.get? c with
    | none => rfl
    | some cs =>
      cases m with
      | elec | ops => exact h.elim
      | multi | empty => rfl
      | params red pers ack => simp only [Option.map, doParams_withReg, finish_withReg]

theorem run_withReg (s : Server) (x : Option U128) (y : Option Nat) (tr : List Ev) (h : ∀ ev ∈ tr, Agnostic ev) :
    run (withReg s x y) tr = (run s tr).map (fun r => (withReg r.1 x y, r.2)) := by
  induction tr generalizing s with
  | nil => rfl
  | cons ev rest ih =>
    simp only [run, step_withReg s x y ev (h ev List.mem_cons_self)]
    cases step s ev with
    | none => rfl
    | some r =>
      simp only [Option.map, ih r.1 fun e he => h e (List.mem_cons_of_mem _ he)]
      cases run r.1 rest <;> rfl

theorem elect_merges (s : Server) (x : Option U128) (y : Option Nat) (c : Nat) (cs : Sess) (e : U128)
    (hg : s.sess.get? c = some cs) (hexp : cs.params.expectElec = true) (hz : e.isZero = false)
    (h1 : isNewMaster e x = true) (h2 : isNewMaster e s.curElec = true) :
    step (withReg s x y) (.msg c (.elec e)) = step s (.msg c (.elec e)) := by
  simp only [step, recv, withReg, hg, doElec, hexp, hz, h1, h2, Bool.not_true, Bool.false_eq_true, if_false, if_true]

theorem run_append (t : Server) (a b : List Ev) :
    run t (a ++ b) = match run t a with
      | none => none
      | some (t1, o1) => (run t1 b).map (fun r => (r.1, o1 ++ r.2)) := by
  induction a generalizing t with
  | nil => show run t b = (run t b).map _; cases run t b <;> rfl
  | cons ev rest ih =>
    simp only [List.cons_append, run]
    cases step t ev with
    | none => rfl
    | some r =>
      simp only [ih]
      cases run r.1 rest with
      | none => rfl
      | some r2 => dsimp only; cases run r2.1 b <;> rfl

/-- Between any two registers, and more than `c19_fresh_equiv` asks: not only the outputs but the whole
results of the two runs (the final states too) agree. -/
theorem merge_run (s : Server) (x x' : Option U128) (y y' : Option Nat) (pre post : List Ev)
    (c : Nat) (e : U128) (hpre : ∀ ev ∈ pre, Agnostic ev)
    {s1 : Server} {outs1 : List EvOut} (hrun : run s pre = some (s1, outs1))
    {cs : Sess} (hg : s1.sess.get? c = some cs) (hexp : cs.params.expectElec = true) (hz : e.isZero = false)
    (h1 : isNewMaster e x = true) (h2 : isNewMaster e x' = true) :
    run (withReg s x y) (pre ++ Ev.msg c (.elec e) :: post) = run (withReg s x' y') (pre ++ Ev.msg c (.elec e) :: post) := by
  -- `pre` takes both to `s1` with their own registers; there the announcement writes `(e, c)` into both
  have hm : step (withReg s1 x y) (.msg c (.elec e)) = step (withReg s1 x' y') (.msg c (.elec e)) :=
    elect_merges (withReg s1 x' y') x y c cs e hg hexp hz h1 h2
  simp only [run_append, run_withReg _ _ _ pre hpre, hrun, Option.map, run, hm]

/-- **C19 (a used server is as good as a new one).** Take any server `s` and the same server with
another election register `(x, y)`. For a client that first sends only register-agnostic events
(`pre`), then has session `c` announce an accepted election id `e` that is not lower than either
register, and then does anything at all (`post`), both servers produce the same outputs for the
whole trace. -/
theorem c19_fresh_equiv (s : Server) (x : Option U128) (y : Option Nat) (pre post : List Ev)
    (c : Nat) (e : U128) (hpre : ∀ ev ∈ pre, Agnostic ev)
    {s1 : Server} {outs1 : List EvOut} (hrun : run s pre = some (s1, outs1))
    {cs : Sess} (hg : s1.sess.get? c = some cs) (hexp : cs.params.expectElec = true) (hz : e.isZero = false)
    (h1 : isNewMaster e x = true) (h2 : isNewMaster e s.curElec = true) :
    (run (withReg s x y) (pre ++ Ev.msg c (.elec e) :: post)).map (·.2) =
    (run s (pre ++ Ev.msg c (.elec e) :: post)).map (·.2) :=
  -- `withReg s s.curElec s.curMaster` is `s` (structure eta), so `s` itself is the second copy
  congrArg _ (merge_run s x s.curElec y s.curMaster pre post c e hpre hrun hg hexp hz h1 h2)

/-- the hypotheses are satisfiable: a new session connects and negotiates on a server whose
register still holds an old id, then announces a higher one -/
example : ∃ s1 outs1 cs,
    run (Server.new "DEFAULT" ["VRF1"]) [Ev.connect 1, Ev.msg 1 (.params 1 1 0)] = some (s1, outs1) ∧
    s1.sess.get? 1 = some cs ∧ cs.params.expectElec = true ∧
    isNewMaster ⟨0, 9⟩ (some ⟨0, 7⟩) = true ∧ isNewMaster ⟨0, 9⟩ (Server.new "DEFAULT" ["VRF1"]).curElec = true :=
  ⟨_, _, _, rfl, rfl, rfl, by decide, rfl⟩

end Gribi.C19
