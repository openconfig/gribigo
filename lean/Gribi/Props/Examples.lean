/-
Non-vacuity: concrete, non-trivial histories that satisfy the hypotheses of the property
theorems (checked by kernel evaluation, `decide`), and small corollaries stated on them.
These are tests of the statements, labelled as such; the theorems are in C01/C02/C03/C16.
-/
import Gribi.Props.C01
import Gribi.Props.C02
import Gribi.Props.C16
namespace Gribi.Examples
open Gribi Rib

def nhOp (id : Nat) (ni : NI) (idx : Nat) : Op :=
  { id := id, ty := .add, ni := ni, key := .nh idx, pl := { body := "nh" } }
def nhgOp (id : Nat) (ni : NI) (g : Nat) (nhs : List Nat) : Op :=
  { id := id, ty := .add, ni := ni, key := .nhg g, pl := { nhs := nhs, body := "nhg" } }
def v4Op (id : Nat) (ty : OpType) (ni : NI) (p : String) (g : Nat) (gni : NI := "") : Op :=
  { id := id, ty := ty, ni := ni, key := .v4 p, pl := { grp := g, grpNI := gni, body := "v4" } }
def delOp (id : Nat) (ni : NI) (k : Key) : Op := { id := id, ty := .delete, ni := ni, key := k, pl := {} }

/-- a 10-step history: a forward reference resolved transitively, a cross-instance group
reference, a delete refused because of it, a retarget, deletes, and a full flush -/
def hist : List Rib.In :=
  [ .addNI "V",
    .setHook,
    .add (v4Op 1 .add "V" "1.0.0.0/8" 1 "D") [],          -- held: group D/1 missing
    .add (nhgOp 2 "D" 1 [1]) [],                           -- held: next-hop D/1 missing
    .add (nhOp 3 "D" 1) [.ok 2, .ok 1],                    -- resolves both, transitively
    .del (delOp 4 "D" (.nhg 1)),                           -- refused: V's entry points at it
    .add (nhgOp 5 "V" 7 [9]) [],                           -- held for ever
    .del (delOp 6 "V" (.v4 "1.0.0.0/8")),
    .del (delOp 7 "D" (.nhg 1)),                           -- now allowed
    .flush ["D", "V"] ]

example : (run (Rib.new "D") hist).isSome = true := by decide
example : ∀ i ∈ hist, C01.inWf i := by decide
-- acknowledgements, step by step
example : (run (Rib.new "D") hist).map (fun r => r.2.map (fun o => (o.oks.map (·.id), o.fails))) =
    some [([], []), ([], []), ([], []), ([], []), ([3, 2, 1], []), ([], [4]), ([], []), ([6], []), ([7], []), ([], [])] := by
  decide
-- the held operation 5 survives the flush, and nothing is installed
example : (run (Rib.new "D") hist).map (fun r => (r.1.ents.length, r.1.pend.map (·.1))) = some (0, [5]) := by decide

/-- C02, transitivity: the chain NH ← NHG ← IPv4 submitted in each of the six orders ends with
all three acknowledged by the last submission, none resent. -/
def chainOps : List Op := [nhOp 1 "D" 1, nhgOp 2 "D" 1 [1], v4Op 3 .add "D" "1.0.0.0/8" 1]

def ackedIds (ins : List Rib.In) : Option (List Nat) :=
  (run (Rib.new "D") ins).map (fun r => (r.2.map (fun o => o.oks.map (·.id))).flatten)

example : ackedIds [.add (nhOp 1 "D" 1) [], .add (nhgOp 2 "D" 1 [1]) [], .add (v4Op 3 .add "D" "1.0.0.0/8" 1) []] = some [1, 2, 3] := by decide
example : ackedIds [.add (nhOp 1 "D" 1) [], .add (v4Op 3 .add "D" "1.0.0.0/8" 1) [], .add (nhgOp 2 "D" 1 [1]) [.ok 3]] = some [1, 2, 3] := by decide
example : ackedIds [.add (nhgOp 2 "D" 1 [1]) [], .add (nhOp 1 "D" 1) [.ok 2], .add (v4Op 3 .add "D" "1.0.0.0/8" 1) []] = some [1, 2, 3] := by decide
example : ackedIds [.add (nhgOp 2 "D" 1 [1]) [], .add (v4Op 3 .add "D" "1.0.0.0/8" 1) [], .add (nhOp 1 "D" 1) [.ok 2, .ok 3]] = some [1, 2, 3] := by decide
example : ackedIds [.add (v4Op 3 .add "D" "1.0.0.0/8" 1) [], .add (nhOp 1 "D" 1) [], .add (nhgOp 2 "D" 1 [1]) [.ok 3]] = some [1, 2, 3] := by decide
example : ackedIds [.add (v4Op 3 .add "D" "1.0.0.0/8" 1) [], .add (nhgOp 2 "D" 1 [1]) [], .add (nhOp 1 "D" 1) [.ok 2, .ok 3]] = some [1, 2, 3] := by decide
-- an order the model does NOT accept: the entry cannot be acknowledged before its group
example : ackedIds [.add (v4Op 3 .add "D" "1.0.0.0/8" 1) [], .add (nhgOp 2 "D" 1 [1]) [], .add (nhOp 1 "D" 1) [.ok 3, .ok 2]] = none := by decide
-- nor one that leaves a resolvable operation held
example : ackedIds [.add (v4Op 3 .add "D" "1.0.0.0/8" 1) [], .add (nhgOp 2 "D" 1 [1]) [], .add (nhOp 1 "D" 1) [.ok 2]] = none := by decide

/-- the order-dependent case: a held ADD and a held REPLACE of one key waiting for one group;
both orders are accepted and give different outcomes — which is why the theorems quantify over
every accepted cascade rather than fixing one. -/
def twoHeld (script : List CEv) : List Rib.In :=
  [ .add (nhOp 1 "D" 1) [],
    .add (nhgOp 2 "D" 1 [1]) [],
    .add (v4Op 3 .add "D" "1.0.0.0/8" 1) [],
    .add (v4Op 4 .add "D" "1.0.0.0/8" 5) [],          -- held: group 5 missing
    .add (v4Op 5 .replace "D" "1.0.0.0/8" 5) [],      -- held: group 5 missing
    .del (delOp 6 "D" (.v4 "1.0.0.0/8")),
    .add (nhgOp 7 "D" 5 [1]) script ]
example : ((run (Rib.new "D") (twoHeld [.ok 4, .ok 5])).map (fun r => (r.2.map (fun o => (o.oks.map (·.id), o.fails))).getLast?)) =
    some (some ([7, 4, 5], [])) := by decide
example : ((run (Rib.new "D") (twoHeld [.fail 5, .ok 4])).map (fun r => (r.2.map (fun o => (o.oks.map (·.id), o.fails))).getLast?)) =
    some (some ([7, 4], [5])) := by decide
-- but the REPLACE cannot be acknowledged before the ADD re-creates its key
example : (run (Rib.new "D") (twoHeld [.ok 5, .ok 4])).isSome = false := by decide

/-- C03: the refused delete of `hist` is refused exactly because of the cross-instance referrer -/
example : ((run (Rib.new "D") (hist.take 5)).map (fun r => r.1.classifyDel (delOp 4 "D" (.nhg 1)))) = some .refd := by decide
example : ((run (Rib.new "D") (hist.take 8)).map (fun r => r.1.classifyDel (delOp 7 "D" (.nhg 1)))) = some .ok := by decide

/-- C02 disallowed: with forward references off the same submissions fail at once and nothing is held -/
example : (run (Rib.new "D" false) [.add (v4Op 1 .add "D" "1.0.0.0/8" 1) [], .add (nhgOp 2 "D" 1 [1]) []]).map
    (fun r => (r.2.map (·.fails), r.1.pend.length)) = some ([[1], [2]], 0) := by decide

/-- C16: folding the notifications of `hist` (hook registered at step 2) gives the final contents -/
example : (run (Rib.new "D") hist).map (fun r => (C16.foldHooks [] (C16.allHooks r.2)).length) = some 0 := by decide
example : (run (Rib.new "D") (hist.take 7)).map
    (fun r => ((C16.foldHooks [] (C16.allHooks r.2)).map (·.1), r.1.ents.map (·.1))) =
    some ([("V", Key.v4 "1.0.0.0/8"), ("D", Key.nhg 1), ("D", Key.nh 1)], [("V", Key.v4 "1.0.0.0/8"), ("D", Key.nhg 1), ("D", Key.nh 1)]) := by
  decide

/-- the label bound: DELETE of 2^32+100 is refused and label 100 stays (repaired D6) -/
example : let s := (run (Rib.new "D") [.add (nhOp 1 "D" 1) [], .add (nhgOp 2 "D" 1 [1]) [],
      .add { id := 3, ty := .add, ni := "D", key := .mpls 100, pl := { grp := 1 } } []]).map (·.1)
    s.map (fun s => ((s.del (delOp 4 "D" (.mpls (2 ^ 32 + 100)))).2.fails, (s.del (delOp 4 "D" (.mpls (2 ^ 32 + 100)))).1.ents.length)) =
      some ([4], 3) := by decide

end Gribi.Examples
