/-
The tie by translation. `Gribi/Gen/*.lean` are regenerated from /repo's Go sources on every
check run (by /verif/translate). The theorems in `Gribi/Props/GenEquiv/*` state, for every
input, that each generated definition — what the Go function says now — computes what the
hand-written model computes; a change of the Go function that changes its decision for any
input makes the corresponding theorem fail.

This file: the model's status vocabulary mapped to the generated one (`codeOf`, `detOf`,
`statusOf`, `fdetOf`, `fstatusOf`), and `uint128.Cmp` / `Equals` (`cmp`, `equals` of the prelude)
as the model's `U128.lt` / equality.
-/
import Gribi.GenPrelude
import Gribi.Model.Server
import Gribi.Lemmas.U128
namespace Gribi.GenEquiv
open Gribi Gribi.Gen

def codeOf : Code → GCode
  | .ok => .OK | .unknown => .Unknown | .invalidArgument => .InvalidArgument
  | .failedPrecondition => .FailedPrecondition | .unimplemented => .Unimplemented | .internal => .Internal

def detOf : Reason → Details
  | .none => .none
  | .unknown => .modify .UNKNOWN
  | .unsupportedParams => .modify .UNSUPPORTED_PARAMS
  | .modifyNotAllowed => .modify .MODIFY_NOT_ALLOWED
  | .paramsDiffer => .modify .PARAMS_DIFFER_FROM_OTHER_CLIENTS
  | .elecInAllPrimary => .modify .ELECTION_ID_IN_ALL_PRIMARY

def statusOf (t : Term) : Status := ⟨codeOf t.code, detOf t.reason⟩

def fdetOf : Server.FlushReason → Details
  | .none => .none
  | .unspecifiedNI => .flush .UNSPECIFIED_NETWORK_INSTANCE
  | .invalidNI => .flush .INVALID_NETWORK_INSTANCE
  | .unspecifiedElection => .flush .UNSPECIFIED_ELECTION_BEHAVIOR
  | .elecInAllPrimary => .flush .ELECTION_ID_IN_ALL_PRIMARY
  | .invalidElec => .flush .INVALID_ELECTION_ID
  | .notPrimary => .flush .NOT_PRIMARY

def fstatusOf (r : Server.FlushRes) : Status := ⟨codeOf r.code, fdetOf r.reason⟩

theorem codeOf_inj : ∀ a b, codeOf a = codeOf b → a = b := by
  intro a b h
  have inv : ∀ x, (match codeOf x with
      | .OK => Code.ok | .Unknown => .unknown | .InvalidArgument => .invalidArgument
      | .FailedPrecondition => .failedPrecondition | .Unimplemented => .unimplemented | _ => .internal) = x := by
    intro x; cases x <;> rfl
  rw [← inv a, h, inv b]

theorem detOf_inj : ∀ a b, detOf a = detOf b → a = b := by
  intro a b h
  have inv : ∀ x, (match detOf x with
      | .modify .UNKNOWN => Reason.unknown | .modify .UNSUPPORTED_PARAMS => .unsupportedParams
      | .modify .MODIFY_NOT_ALLOWED => .modifyNotAllowed
      | .modify .PARAMS_DIFFER_FROM_OTHER_CLIENTS => .paramsDiffer
      | .modify .ELECTION_ID_IN_ALL_PRIMARY => .elecInAllPrimary | _ => .none) = x := by
    intro x; cases x <;> rfl
  rw [← inv a, h, inv b]

theorem fdetOf_inj : ∀ a b, fdetOf a = fdetOf b → a = b := by
  intro a b h
  have inv : ∀ x, (match fdetOf x with
      | .flush .UNSPECIFIED_NETWORK_INSTANCE => Server.FlushReason.unspecifiedNI
      | .flush .INVALID_NETWORK_INSTANCE => .invalidNI
      | .flush .UNSPECIFIED_ELECTION_BEHAVIOR => .unspecifiedElection
      | .flush .ELECTION_ID_IN_ALL_PRIMARY => .elecInAllPrimary
      | .flush .INVALID_ELECTION_ID => .invalidElec | .flush .NOT_PRIMARY => .notPrimary | _ => .none) = x := by
    intro x; cases x <;> rfl
  rw [← inv a, h, inv b]

theorem u128_eta (c : U128) : u128 c.lo c.hi = c := rfl

/-- `Cmp` is the three-way form of the model's `lt`: both look at the high words first. What `lt`
means for the 128-bit numbers is `U128.lt_iff`. -/
theorem cmp_eq (a b : U128) :
    cmp a b = if U128.lt a b then -1 else if U128.lt b a then 1 else 0 := by
  unfold cmp U128.lt
  by_cases h1 : a.hi < b.hi
  · simp [h1]
  · by_cases h2 : b.hi < a.hi
    · have : ¬ a.hi = b.hi := fun e => by rw [e] at h2; exact UInt64.lt_irrefl _ h2
      simp [h1, h2, this]
    · have e : a.hi = b.hi := UInt64.le_antisymm (UInt64.not_lt.mp h2) (UInt64.not_lt.mp h1)
      simp [e, UInt64.lt_irrefl]

theorem cmp_cases (a b : U128) :
    (cmp a b = -1 ∧ a.toNat < b.toNat) ∨ (cmp a b = 0 ∧ a = b) ∨ (cmp a b = 1 ∧ b.toNat < a.toNat) := by
  rw [cmp_eq]
  cases h1 : U128.lt a b with
  | true => exact .inl ⟨rfl, (U128.lt_iff a b).mp h1⟩
  | false =>
    cases h2 : U128.lt b a with
    | true => exact .inr (.inr ⟨rfl, (U128.lt_iff b a).mp h2⟩)
    | false => exact .inr (.inl ⟨rfl, (U128.not_lt_and_not_lt_iff a b).mp ⟨h1, h2⟩⟩)

theorem lt_irrefl' (a : U128) : ¬ a.toNat < a.toNat := Nat.lt_irrefl _

/-! The tests the Go code makes on the result of `Cmp`, each as the model's test. Rewriting with
these turns a translated comparison into the model's (`gen_gate`, `gen_checkFlush`,
`gen_runElection`), without a split on the outcome of `Cmp`. -/

theorem cmp_eq_zero (a b : U128) : cmp a b = 0 ↔ a = b := by
  rcases cmp_cases a b with ⟨h, h'⟩ | ⟨h, h'⟩ | ⟨h, h'⟩ <;> simp [h]
  · intro e; subst e; omega
  · exact h'
  · intro e; subst e; omega

theorem cmp_neg (a b : U128) : cmp a b < 0 ↔ U128.lt a b = true := by
  rw [cmp_eq]
  rcases U128.lt_trichotomy a b with ⟨h1, h2⟩ | rfl | ⟨h1, h2⟩ <;> simp [*, U128.lt_irrefl]

theorem cmp_pos (a b : U128) : 0 < cmp a b ↔ U128.lt b a = true := by
  rw [cmp_eq]
  rcases U128.lt_trichotomy a b with ⟨h1, h2⟩ | rfl | ⟨h1, h2⟩ <;> simp [*, U128.lt_irrefl]

theorem lt_iff_cmp (a b : U128) : U128.lt a b = true ↔ cmp a b = -1 := by
  rw [cmp_eq]
  rcases U128.lt_trichotomy a b with ⟨h1, h2⟩ | rfl | ⟨h1, h2⟩ <;> simp [*, U128.lt_irrefl]

theorem le_iff_cmp (a b : U128) : U128.le a b = true ↔ cmp a b ≠ 1 := by
  rw [U128.le_iff]
  rcases cmp_cases a b with ⟨h, h'⟩ | ⟨h, h'⟩ | ⟨h, h'⟩ <;> simp [h] <;> first | omega | (subst h'; omega)

theorem eq_iff_cmp (a b : U128) : a = b ↔ cmp a b = 0 := (cmp_eq_zero a b).symm

theorem equals_iff (a b : U128) : equals a b = true ↔ a = b := by
  unfold equals; cases a; cases b; simp

theorem isZero_iff (e : U128) : e.isZero = true ↔ e = u128 0 0 := by
  unfold U128.isZero u128; cases e; simp

end Gribi.GenEquiv
