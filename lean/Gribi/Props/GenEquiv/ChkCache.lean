/-
The tie by translation, `chk.HasResultsCache` and `chk.HasResult` (chk/chk.go).

`HasResultsCache` builds six Go maps (by operation id, next-hop-group id, next-hop index, IPv4
prefix, IPv6 prefix, label) and looks each want up in one of them; the model `Chk.hasResultsCache`
says "the last result with that key" (`get?_index`). `HasResult` rests on `cmp.Equal`, which is not
translated: it is read as field-wise equality outside the ignored fields (`cmpEq`).
-/
import Gribi.Gen.HasResultsCache
import Gribi.Gen.HasResult
import Gribi.Model.Chk
import Gribi.Props.GenEquiv.Loop
namespace Gribi.GenEquiv.ChkCache
open Gribi Gribi.Gen

def absD (d : OpDetailsResults) : Chk.Details :=
  { ty := d.Type_, nh := d.NextHopIndex, nhg := d.NextHopGroupID, v4 := d.IPv4Prefix, v6 := d.IPv6Prefix, mpls := d.MPLSLabel }

def absR (r : COpResult) : Chk.OpRes :=
  { opId := r.OperationID, prog := r.ProgrammingResult,
    elec := r.CurrentServerElectionID.map (fun u => (u.hi.toNat, u.lo.toNat)),
    params := r.SessionParameters.map (·.Status), clientErr := r.ClientError, serverErr := r.ServerError,
    details := r.Details.map absD }

def keyOf (r : COpResult) : Option Chk.DKey := (absR r).details.bind Chk.dkey

/-- a Go map filled by a loop of assignments `m[sel r] = r` (for the results that have a key) -/
def index {κ : Type} [DecidableEq κ] (sel : COpResult → Option κ) (m : Map κ COpResult) (l : List COpResult) : Map κ COpResult :=
  l.foldl (fun m r => match sel r with | some k => Map.insert m k r | none => m) m

theorem get?_index {κ : Type} [DecidableEq κ] (sel : COpResult → Option κ) (l : List COpResult) (k : κ) :
    Map.get? (index sel [] l) k = l.reverse.find? (fun r => sel r == some k) := by
  rw [index, List.foldl_eq_foldr_reverse]
  induction l.reverse with
  | nil => rfl
  | cons r t ih =>
    rw [List.foldr_cons, List.find?_cons]
    cases hs : sel r with
    | none => exact ih
    | some k' =>
      rw [Map.get?_insert, ih]
      by_cases hk : k' = k
      · rw [if_pos hk, hk, beq_self_eq_true]
      · rw [if_neg hk, beq_eq_false_iff_ne.mpr (fun h => hk (Option.some.inj h))]

/-! The key under which the code's first loop files a result in each of its six maps. A case of its `switch` is reached
only when the earlier ones fail, hence the tests each selector repeats. -/
def selOp (r : COpResult) : Option Nat := some r.OperationID
def selNHG (r : COpResult) : Option Nat :=
  match r.Details with
  | none => none
  | some d => if d.NextHopGroupID ≠ 0 then some d.NextHopGroupID else none
def selNH (r : COpResult) : Option Nat :=
  match r.Details with
  | none => none
  | some d => if d.NextHopGroupID ≠ 0 then none else if d.NextHopIndex ≠ 0 then some d.NextHopIndex else none
def selV4 (r : COpResult) : Option String :=
  match r.Details with
  | none => none
  | some d => if d.NextHopGroupID ≠ 0 then none else if d.NextHopIndex ≠ 0 then none
      else if d.IPv4Prefix ≠ "" then some d.IPv4Prefix else none
def selV6 (r : COpResult) : Option String :=
  match r.Details with
  | none => none
  | some d => if d.NextHopGroupID ≠ 0 then none else if d.NextHopIndex ≠ 0 then none
      else if d.IPv4Prefix ≠ "" then none else if d.IPv6Prefix ≠ "" then some d.IPv6Prefix else none
def selMPLS (r : COpResult) : Option Nat :=
  match r.Details with
  | none => none
  | some d => if d.NextHopGroupID ≠ 0 then none else if d.NextHopIndex ≠ 0 then none
      else if d.IPv4Prefix ≠ "" then none else if d.IPv6Prefix ≠ "" then none
      else if d.MPLSLabel ≠ 0 then some d.MPLSLabel else none

/-- The code's `switch` on the details, once: anything computed from the five selectors and the model's key
is computed by the switch, and in each branch exactly one selector is `some`, with the key of that kind. -/
theorem sel_switch {β : Sort _} (G : Option Nat → Option Nat → Option String → Option String → Option Nat → Option Chk.DKey → β)
    (r : COpResult) :
    G (selNHG r) (selNH r) (selV4 r) (selV6 r) (selMPLS r) (keyOf r) =
      match r.Details with
      | none => G none none none none none none
      | some d =>
        if d.NextHopGroupID ≠ 0 then G (some d.NextHopGroupID) none none none none (some (.nhg d.NextHopGroupID))
        else if d.NextHopIndex ≠ 0 then G none (some d.NextHopIndex) none none none (some (.nh d.NextHopIndex))
        else if d.IPv4Prefix ≠ "" then G none none (some d.IPv4Prefix) none none (some (.v4 d.IPv4Prefix))
        else if d.IPv6Prefix ≠ "" then G none none none (some d.IPv6Prefix) none (some (.v6 d.IPv6Prefix))
        else if d.MPLSLabel ≠ 0 then G none none none none (some d.MPLSLabel) (some (.mpls d.MPLSLabel))
        else G none none none none none none := by
  unfold selNHG selNH selV4 selV6 selMPLS keyOf absR
  cases r.Details with
  | none => rfl
  | some d =>
    dsimp only [absD, Chk.dkey, Option.map_some, Option.bind_some]
    -- every `if` on both sides tests one of the five conditions: decide them in the code's order, then compute
    cases (instDecidableNot : Decidable (d.NextHopGroupID ≠ 0)) with | isTrue => rfl | isFalse => ?_
    cases (instDecidableNot : Decidable (d.NextHopIndex ≠ 0)) with | isTrue => rfl | isFalse => ?_
    cases (instDecidableNot : Decidable (d.IPv4Prefix ≠ "")) with | isTrue => rfl | isFalse => ?_
    cases (instDecidableNot : Decidable (d.IPv6Prefix ≠ "")) with | isTrue => rfl | isFalse => ?_
    cases (instDecidableNot : Decidable (d.MPLSLabel ≠ 0)) <;> rfl

/-- Two `if`s agree when their tests are equivalent and their branches equal. For a test the code may write the other way
round (`x ≠ 0`, `0 ≠ x`), give the equivalence by `rw [ne_comm]`: it turns both of its sides the same way, whether or not
they stood the same way before. -/
theorem ite_iff {α : Sort _} {c c' : Prop} [Decidable c] [Decidable c'] {a a' b b' : α} (h : c' ↔ c) (ha : a' = a)
    (hb : b' = b) : (if c' then a' else b') = if c then a else b := by
  subst ha hb
  by_cases hc : c
  · rw [if_pos hc, if_pos (h.mpr hc)]
  · rw [if_neg hc, if_neg (mt h.mp hc)]

theorem loop1_eq (wants : List COpResult) (ig : Bool) (hr : List (Option COpResult) → Option COpResult → Bool) :
    ∀ (l : List COpResult) (m1 m2 m3 : Map Nat COpResult) (m4 m5 : Map String COpResult) (m6 : Map Nat COpResult),
      hasResultsCache.loop1 wants ig hr l m1 m2 m3 m4 m5 m6 =
        hasResultsCache.loop1 wants ig hr [] (index selOp m1 l) (index selNHG m2 l) (index selNH m3 l)
          (index selV4 m4 l) (index selV6 m5 l) (index selMPLS m6 l) := by
  intro l
  induction l with
  | nil => intros; rfl
  | cons r t ih =>
    intro m1 m2 m3 m4 m5 m6
    -- one turn of the loop is the code's `switch`: `sel_switch`, with the loop on the six maps after `r` was filed as `G`
    refine Eq.trans ?_ (ih _ _ _ _ _ _)
    refine (hasResultsCache.loop1.eq_2 ..).trans (Eq.trans ?_ (sel_switch (fun s2 s3 s4 s5 s6 _ =>
      hasResultsCache.loop1 wants ig hr t (index selOp m1 [r]) (index (fun _ => s2) m2 [r]) (index (fun _ => s3) m3 [r])
        (index (fun _ => s4) m4 [r]) (index (fun _ => s5) m5 [r]) (index (fun _ => s6) m6 [r])) r).symm)
    -- test by test down the cascade, each written either way round
    cases r.Details with
    | none => rfl
    | some d =>
      exact ite_iff (by rw [ne_comm]) rfl <| ite_iff (by rw [ne_comm]) rfl <| ite_iff (by rw [ne_comm]) rfl <|
        ite_iff (by rw [ne_comm]) rfl <| ite_iff (by rw [ne_comm]) rfl rfl

theorem loop3_eq (hr : List (Option COpResult) → Option COpResult → Bool) (m : Map Nat COpResult) :
    ∀ (l : List COpResult), hasResultsCache.loop1.loop3 hr m l = l.all (fun w => hr [Map.get? m w.OperationID] (some w)) :=
  loop_all_ite rfl fun _ _ => rfl

/-- the body of the second loop over the wants (under IgnoreOperationID), `hr` for `HasResult` -/
def wantByKey (hr : List (Option COpResult) → Option COpResult → Bool) (m2 m3 : Map Nat COpResult) (m4 m5 : Map String COpResult)
    (m6 : Map Nat COpResult) (w : COpResult) : Bool :=
  match w.Details with
  | none => false
  | some d =>
    if d.NextHopGroupID ≠ 0 then hr [Map.get? m2 d.NextHopGroupID] (some w)
    else if d.NextHopIndex ≠ 0 then hr [Map.get? m3 d.NextHopIndex] (some w)
    else if d.IPv4Prefix ≠ "" then hr [Map.get? m4 d.IPv4Prefix] (some w)
    else if d.IPv6Prefix ≠ "" then hr [Map.get? m5 d.IPv6Prefix] (some w)
    else if d.MPLSLabel ≠ 0 then hr [Map.get? m6 d.MPLSLabel] (some w)
    else false

section
variable (hr : List (Option COpResult) → Option COpResult → Bool) (m2 m3 : Map Nat COpResult)
  (m4 m5 : Map String COpResult) (m6 : Map Nat COpResult) (w : COpResult)

def byKey : Option Chk.DKey → Bool
  | none => false
  | some (.nhg n) => hr [Map.get? m2 n] (some w)
  | some (.nh n) => hr [Map.get? m3 n] (some w)
  | some (.v4 p) => hr [Map.get? m4 p] (some w)
  | some (.v6 p) => hr [Map.get? m5 p] (some w)
  | some (.mpls n) => hr [Map.get? m6 n] (some w)

theorem wantByKey_key : wantByKey hr m2 m3 m4 m5 m6 w = byKey hr m2 m3 m4 m5 m6 w (keyOf w) :=
  (sel_switch (fun _ _ _ _ _ => byKey hr m2 m3 m4 m5 m6 w) w).symm
end

theorem loop2_eq (hr : List (Option COpResult) → Option COpResult → Bool) (m2 m3 : Map Nat COpResult) (m4 m5 : Map String COpResult)
    (m6 : Map Nat COpResult) :
    ∀ (l : List COpResult), hasResultsCache.loop1.loop2 hr m2 m3 m4 m5 m6 l = l.all (wantByKey hr m2 m3 m4 m5 m6) := by
  refine loop_all_ite rfl fun w t => ?_
  -- the body is `wantByKey` with "go on if `hr` says yes" for `hr` (test by test, each written either way round)
  have body : hasResultsCache.loop1.loop2 hr m2 m3 m4 m5 m6 (w :: t) =
      wantByKey (fun l x => if hr l x = true then hasResultsCache.loop1.loop2 hr m2 m3 m4 m5 m6 t else false)
        m2 m3 m4 m5 m6 w := by
    rw [hasResultsCache.loop1.loop2.eq_2, wantByKey]
    cases w.Details with
    | none => rfl
    | some d =>
      exact ite_iff (by rw [ne_comm]) rfl <| ite_iff (by rw [ne_comm]) rfl <| ite_iff (by rw [ne_comm]) rfl <|
        ite_iff (by rw [ne_comm]) rfl <| ite_iff (by rw [ne_comm]) rfl rfl
  rw [body, wantByKey_key, wantByKey_key]
  cases keyOf w with
  | none => rfl
  | some k => cases k <;> rfl

theorem gen_cache_shape (res wants : List COpResult) (ig : Bool) (hr : List (Option COpResult) → Option COpResult → Bool) :
    Gen.hasResultsCache res wants ig hr =
      if ig then wants.all (wantByKey hr (index selNHG [] res) (index selNH [] res) (index selV4 [] res) (index selV6 [] res)
          (index selMPLS [] res))
      else wants.all (fun w => hr [Map.get? (index selOp [] res) w.OperationID] (some w)) := by
  refine (loop1_eq wants ig hr res [] [] [] [] [] []).trans ?_
  rw [hasResultsCache.loop1.eq_1, loop2_eq, loop3_eq]

theorem sel_key (r : COpResult) :
    (∀ n, selNHG r = some n ↔ keyOf r = some (.nhg n)) ∧ (∀ n, selNH r = some n ↔ keyOf r = some (.nh n)) ∧
    (∀ p, selV4 r = some p ↔ keyOf r = some (.v4 p)) ∧ (∀ p, selV6 r = some p ↔ keyOf r = some (.v6 p)) ∧
    (∀ n, selMPLS r = some n ↔ keyOf r = some (.mpls n)) := by
  have ite_intro : ∀ {c : Prop} [Decidable c] {P Q : Prop}, P → Q → if c then P else Q := by
    intro c _ P Q hp hq; split <;> assumption
  refine (sel_switch (fun s2 s3 s4 s5 s6 k =>
    (∀ n, s2 = some n ↔ k = some (.nhg n)) ∧ (∀ n, s3 = some n ↔ k = some (.nh n)) ∧
    (∀ p, s4 = some p ↔ k = some (.v4 p)) ∧ (∀ p, s5 = some p ↔ k = some (.v6 p)) ∧
    (∀ n, s6 = some n ↔ k = some (.mpls n))) r).mpr ?_
  -- in every branch the one selector that is `some` agrees with the key; the others are `none` and the kinds differ
  cases r.Details with
  | none => simp only [reduceCtorEq, implies_true, and_self]
  | some d =>
    refine ite_intro ?_ (ite_intro ?_ (ite_intro ?_ (ite_intro ?_ (ite_intro ?_ ?_)))) <;>
      simp only [Option.some.injEq, reduceCtorEq, Chk.DKey.nhg.injEq, Chk.DKey.nh.injEq, Chk.DKey.v4.injEq,
        Chk.DKey.v6.injEq, Chk.DKey.mpls.injEq, implies_true, and_self]

/-- `HasResult` as the model's `Chk.hasResult` -/
def hrModel (o : Chk.Opts) (l : List (Option COpResult)) (w : Option COpResult) : Bool :=
  match w with
  | some w => Chk.hasResult (l.map (·.map absR)) (absR w) o
  | none => false

theorem find_congr (l : List COpResult) (p q : COpResult → Bool) (h : ∀ r, p r = q r) : l.find? p = l.find? q :=
  congrArg (List.find? · l) (funext h)

theorem hrModel_index {κ κ' : Type} [DecidableEq κ] [DecidableEq κ'] (o : Chk.Opts) (res : List COpResult)
    (sel : COpResult → Option κ) (k : κ) (key : Chk.OpRes → Option κ') (k' : κ') (w : COpResult)
    (h : ∀ r, sel r = some k ↔ key (absR r) = some k') :
    hrModel o [Map.get? (index sel [] res) k] (some w) = Chk.hasResult [Chk.lastBy (res.map absR) key k'] (absR w) o := by
  rw [get?_index, Chk.lastBy, ← List.map_reverse, List.find?_map, find_congr _ _ (fun r => key (absR r) == some k')]
  · rfl
  · intro r; rw [Bool.eq_iff_iff, beq_iff_eq, beq_iff_eq]; exact h r

/-- `HasResultsCache`, its calls of `HasResult` answered by the model's `Chk.hasResult` (`hrModel`), = the model's
`Chk.hasResultsCache` -/
theorem gen_hasResultsCache (res wants : List COpResult) (o : Chk.Opts) :
    Gen.hasResultsCache res wants o.ignoreOpId (hrModel o) = Chk.hasResultsCache (res.map absR) (wants.map absR) o := by
  rw [gen_cache_shape, Chk.hasResultsCache]
  cases o.ignoreOpId with
  | false =>
    rw [List.all_map]
    exact congrArg wants.all (funext fun w => hrModel_index o res selOp _ (fun r => some r.opId) _ w fun _ => Iff.rfl)
  | true =>
    show wants.all _ = (wants.map absR).all _
    rw [List.all_map]
    -- both sides look the want up by its key (none: both fail); kind by kind the code's index is the model's `lastBy`
    refine congrArg wants.all (funext fun w => (wantByKey_key ..).trans ?_)
    dsimp only [keyOf, Function.comp]
    cases (absR w).details with
    | none => rfl
    | some d =>
      dsimp only [Option.bind_some]
      cases Chk.dkey d with
      | none => rfl
      | some k =>
        cases k with
        | nhg n => refine hrModel_index o res _ _ _ _ w ?_; exact fun r => (sel_key r).1 n
        | nh n => refine hrModel_index o res _ _ _ _ w ?_; exact fun r => (sel_key r).2.1 n
        | v4 p => refine hrModel_index o res _ _ _ _ w ?_; exact fun r => (sel_key r).2.2.1 p
        | v6 p => refine hrModel_index o res _ _ _ _ w ?_; exact fun r => (sel_key r).2.2.2.1 p
        | mpls n => refine hrModel_index o res _ _ _ _ w ?_; exact fun r => (sel_key r).2.2.2.2 n

/-- `cmp.Equal(r, want, IgnoreFields(OpResult{}, ignore...), protocmp.Transform())`: field-wise
equality of the two results outside the ignored fields; a nil result equals only nil -/
def cmpEq (r w : Option COpResult) (ignore : List String) : Bool :=
  match r, w with
  | some r, some w =>
    (ignore.contains "Timestamp" || r.Timestamp == w.Timestamp) && (ignore.contains "Latency" || r.Latency == w.Latency) &&
    (ignore.contains "CurrentServerElectionID" || r.CurrentServerElectionID == w.CurrentServerElectionID) &&
    (ignore.contains "SessionParameters" || r.SessionParameters == w.SessionParameters) &&
    (ignore.contains "OperationID" || r.OperationID == w.OperationID) &&
    (ignore.contains "ClientError" || r.ClientError == w.ClientError) &&
    (ignore.contains "ServerError" || r.ServerError == w.ServerError) &&
    (ignore.contains "ProgrammingResult" || r.ProgrammingResult == w.ProgrammingResult) &&
    (ignore.contains "Details" || r.Details == w.Details)
  | none, none => true
  | _, _ => false

/-- the generated `found` flag: set at a match, tested after the loop -/
theorem found_any {α : Type} (p : α → Bool) (l : List α) (acc : Bool) :
    (if l.foldl (fun acc r => if p r = true then true else acc) acc = true then true else false) = (acc || l.any p) := by
  induction l generalizing acc with
  | nil => cases acc <;> rfl
  | cons x t ih => rw [List.foldl_cons, ih, List.any_cons]; cases p x <;> cases acc <;> rfl

theorem hasResult_any (res : List (Option COpResult)) (want : COpResult) (ig inc : Bool)
    (cmp : Option COpResult → Option COpResult → List String → Bool) :
    Gen.hasResult res want ig inc cmp = res.any (fun r => cmp r (some want)
      (["Timestamp", "Latency"] ++ (if want.Details.isNone then ["Details"] else []) ++
        (if ig then ["OperationID"] else []) ++ (if inc then [] else ["ServerError"]))) := by
  unfold Gen.hasResult
  cases want.Details <;> cases ig <;> cases inc <;> apply found_any (acc := false)

theorem beq_of_inj {α β : Type} [BEq α] [LawfulBEq α] [BEq β] [LawfulBEq β] {f : α → β}
    (hf : ∀ a b, f a = f b → a = b) (a b : Option α) : (a.map f == b.map f) = (a == b) := by
  rw [Bool.eq_iff_iff, beq_iff_eq, beq_iff_eq]
  exact Option.map_inj_right hf

theorem absD_inj (a b : OpDetailsResults) (h : absD a = absD b) : a = b := by
  cases a; cases b; cases h; rfl

theorem elec_inj (a b : U128) (h : (a.hi.toNat, a.lo.toNat) = (b.hi.toNat, b.lo.toNat)) : a = b := by
  cases a; cases b
  have h := Prod.mk.inj h
  exact congr (congrArg U128.mk (UInt64.toNat_inj.mp h.1)) (UInt64.toNat_inj.mp h.2)

theorem params_inj (a b : SessionParametersResult) (h : a.Status = b.Status) : a = b := by
  cases a; cases b; cases h; rfl

theorem ignored (a b c : Bool) (x : String) :
    (["Timestamp", "Latency"] ++ (if a then ["Details"] else []) ++ (if b then ["OperationID"] else []) ++
      (if c then [] else ["ServerError"])).contains x =
      (x == "Timestamp" || x == "Latency" || a && x == "Details" || b && x == "OperationID" || !c && x == "ServerError") := by
  simp only [List.contains_append, apply_ite (List.contains · x), List.contains_cons, List.contains_nil, Bool.or_false,
    Bool.if_false_right, Bool.if_false_left, Bool.decide_eq_true]

theorem cmpEq_eqModulo (r want : COpResult) (o : Chk.Opts) :
    cmpEq (some r) (some want)
      (["Timestamp", "Latency"] ++ (if want.Details.isNone then ["Details"] else []) ++
        (if o.ignoreOpId then ["OperationID"] else []) ++ (if o.includeServerErr then [] else ["ServerError"])) =
      Chk.eqModulo o (absR r) (absR want) := by
  -- which of the nine names are ignored (Timestamp and Latency always, three by the flags), then the abstraction
  simp only [cmpEq, ignored, String.reduceBEq, Bool.or_false, Bool.false_or, Bool.true_or, Bool.and_false, Bool.and_true,
    Bool.true_and, Chk.eqModulo, absR, Option.isNone_map, beq_of_inj absD_inj, beq_of_inj elec_inj, beq_of_inj params_inj]
  ac_rfl  -- the same seven tests, in the order of the Go struct and in the order of the model

/-- `HasResult` = the model's `Chk.hasResult`: with `cmp.Equal` read as field-wise equality outside
the ignored fields, the helper passes exactly when some (non-nil) result equals the want under the
model's `eqModulo` — Timestamp and Latency never compared, Details only when the want gives them,
OperationID unless IgnoreOperationID, ServerError only with IncludeServerError -/
theorem gen_hasResult (res : List (Option COpResult)) (want : COpResult) (o : Chk.Opts) :
    Gen.hasResult res want o.ignoreOpId o.includeServerErr cmpEq =
      Chk.hasResult (res.map (·.map absR)) (absR want) o := by
  rw [hasResult_any, Chk.hasResult, List.any_map]
  refine congrArg res.any (funext fun r => ?_)
  cases r with
  | none => rfl
  | some r => exact cmpEq_eqModulo r want o

/-- the two together: `HasResultsCache` calling the generated `HasResult` (only `cmp.Equal` left
as field-wise equality) = the model's `hasResultsCache` -/
theorem gen_hasResultsCache_full (res wants : List COpResult) (o : Chk.Opts) :
    Gen.hasResultsCache res wants o.ignoreOpId
        (fun l w => match w with
          | some w => Gen.hasResult l w o.ignoreOpId o.includeServerErr cmpEq
          | none => false) =
      Chk.hasResultsCache (res.map absR) (wants.map absR) o := by
  rw [← gen_hasResultsCache]
  congr 1
  funext l w
  cases w with
  | none => rfl
  | some w => exact gen_hasResult l w o

theorem gen_chkcache_translated : Gen.hasResultsCache_problem = none ∧ Gen.hasResult_problem = none := ⟨rfl, rfl⟩

end Gribi.GenEquiv.ChkCache
