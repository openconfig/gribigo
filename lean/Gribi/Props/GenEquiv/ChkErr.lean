/-
The tie by translation, chk's error-count helpers (chk/chk.go): `clientError`, `HasNSendErrors`,
`HasNRecvErrors`. An `error` is represented by what the helpers look at (nil / a
`*client.ClientErr` with its two lists / anything else); the theorems say that for every error and
every count the helpers pass exactly when the model's `Chk.hasNSendErrors` / `hasNRecvErrors` do.
-/
import Gribi.Gen.ClientError
import Gribi.Gen.HasNSendErrors
import Gribi.Gen.HasNRecvErrors
import Gribi.Model.Chk
namespace Gribi.GenEquiv.ChkErr
open Gribi Gribi.Gen

/-- the model's view of an error; `st` renders a receive error (which of them are gRPC statuses
does not matter to the two counting helpers) -/
def absErr (st : Option GStatus → Option Chk.St) : Option ErrView → Chk.CErr
  | none => .nil
  | some ⟨none⟩ => .other
  | some ⟨some ce⟩ => .clientErr ce.Send.length (ce.Recv.map st)

/-- `clientError` hands back the `*client.ClientErr` an error holds; it fails the test (and does
not return: none) for nil and for any other error -/
theorem gen_clientError (err : Option ErrView) :
    Gen.clientError err = err.bind (·.AsClientErr) := by
  unfold Gen.clientError
  cases err.bind (fun v => v.AsClientErr) <;> rfl

/-- **`HasNSendErrors`** = the model's -/
theorem gen_hasNSendErrors (st : Option GStatus → Option Chk.St) (err : Option ErrView) (count : Nat) :
    Gen.hasNSendErrors err count = Chk.hasNSendErrors (absErr st err) count := by
  unfold Gen.hasNSendErrors
  rw [gen_clientError]
  rcases err with _ | ⟨_ | ce⟩
  -- nil passes for the count 0 (as zero / successor, so that the code's test of it computes wherever it stands) and is
  -- no ClientErr otherwise; another error fails
  · cases count <;> rfl
  · cases count <;> rfl
  -- a ClientErr is measured: by whether it has that many (an inequality is given to `simp` both ways round)
  · by_cases h : ce.Send.length = count
    · simp [h, absErr, Chk.hasNSendErrors]
    · have := Ne.symm h
      simp [*, absErr, Chk.hasNSendErrors]

/-- **`HasNRecvErrors`** = the model's -/
theorem gen_hasNRecvErrors (st : Option GStatus → Option Chk.St) (err : Option ErrView) (count : Nat) :
    Gen.hasNRecvErrors err count = Chk.hasNRecvErrors (absErr st err) count := by
  unfold Gen.hasNRecvErrors
  rw [gen_clientError]
  rcases err with _ | ⟨_ | ce⟩
  · cases count <;> rfl
  · cases count <;> rfl
  · by_cases h : ce.Recv.length = count
    · simp [h, absErr, Chk.hasNRecvErrors]
    · have := Ne.symm h
      simp [*, absErr, Chk.hasNRecvErrors]

/-- in the words of the property: the helper passes exactly when the error is absent and none is
expected, or is a ClientErr with exactly that many send errors -/
theorem send_pass_iff (err : Option ErrView) (count : Nat) :
    Gen.hasNSendErrors err count = true ↔
      (err = none ∧ count = 0) ∨ ∃ ce, err = some ⟨some ce⟩ ∧ ce.Send.length = count := by
  rw [gen_hasNSendErrors (fun _ => none)]
  rcases err with _ | ⟨_ | ce⟩ <;> simp [absErr, Chk.hasNSendErrors]

theorem gen_chkerr_translated :
    Gen.clientError_problem = none ∧ Gen.hasNSendErrors_problem = none ∧ Gen.hasNRecvErrors_problem = none :=
  ⟨rfl, rfl, rfl⟩

end Gribi.GenEquiv.ChkErr
