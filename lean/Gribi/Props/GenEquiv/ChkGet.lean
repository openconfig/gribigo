/-
The tie by translation, `chk.GetResponseHasEntries` (chk/chk.go): the helper with which a test
asserts that the entries it wants are in a `Get` response. The Go code indexes the response into a
map from network instance to a local struct of five maps (one per entry type) and then looks each
wanted entry up; the theorem says that for every response and every list of wanted entries the
helper passes exactly when every wanted entry is well formed and some response entry of the same
network instance, the same type and the same key was indexed (`getSpec`) — which is the model's
`Chk.getResponseHasEntries` under any injective rendering of the numeric keys.
-/
import Gribi.Gen.GetResponseHasEntries
import Gribi.Model.Chk
import Gribi.Props.GenEquiv.Loop
namespace Gribi.GenEquiv.ChkGet
open Gribi Gribi.Gen

/-- the type and key under which an entry is indexed or looked up -/
inductive GKey where
  | nhg (id : Nat) | nh (idx : Nat) | v4 (p : String) | v6 (p : String) | mpls (l : Nat)
  deriving DecidableEq, Repr

/-- the key a *wanted* entry is looked up by (the getters' zero values for a missing message;
the label is read with `GetLabelUint64()` whatever the oneof holds) -/
def wantKey : GEntryKind → GKey
  | .NextHopGroup x => .nhg ((x.map (·.Id)).getD 0)
  | .NextHop x => .nh ((x.map (·.Index)).getD 0)
  | .Ipv4 x => .v4 ((x.map (·.Prefix)).getD "")
  | .Ipv6 x => .v6 ((x.map (·.Prefix)).getD "")
  | .Mpls x => .mpls ((x.map (·.LabelUint64)).getD 0)

/-- the key a *response* entry is indexed by: none for id/index 0, an empty prefix, a label that
is not the uint64 member, or no entry at all -/
def respKey (e : GAFTEntry) : Option GKey :=
  match e.Entry with
  | none => none
  | some (.NextHopGroup x) => if (x.map (·.Id)).getD 0 ≠ 0 then some (.nhg ((x.map (·.Id)).getD 0)) else none
  | some (.NextHop x) => if (x.map (·.Index)).getD 0 ≠ 0 then some (.nh ((x.map (·.Index)).getD 0)) else none
  | some (.Ipv4 x) => if (x.map (·.Prefix)).getD "" ≠ "" then some (.v4 ((x.map (·.Prefix)).getD "")) else none
  | some (.Ipv6 x) => if (x.map (·.Prefix)).getD "" ≠ "" then some (.v6 ((x.map (·.Prefix)).getD "")) else none
  | some (.Mpls x) => if (x.map (·.LabelIsUint64)).getD false = true then some (.mpls ((x.map (·.LabelUint64)).getD 0)) else none

/-- what `GetResponseHasEntries` decides, stated on the two lists -/
def getSpec (resp : List GAFTEntry) (wants : List (Option GAFTEntry)) : Bool :=
  wants.all fun w =>
    match w with
    | none => false
    | some p =>
      p.NetworkInstance ≠ "" &&
      match p.Entry with
      | none => false
      | some k => resp.any fun e => e.NetworkInstance == p.NetworkInstance && respKey e == some (wantKey k)

def cacheHas (c : GetCache) : GKey → Bool
  | .nhg n => (Map.get? c.nhg n).isSome
  | .nh n => (Map.get? c.nh n).isSome
  | .v4 s => (Map.get? c.ipv4 s).isSome
  | .v6 s => (Map.get? c.ipv6 s).isSome
  | .mpls n => (Map.get? c.mpls n).isSome

def look (m : Map String GetCache) (ni : String) (k : GKey) : Bool :=
  match Map.get? m ni with
  | none => false
  | some c => cacheHas c k

def cachePut (c : GetCache) (r : GAFTEntry) : GKey → GetCache
  | .nhg n => { c with nhg := Map.insert c.nhg n r }
  | .nh n => { c with nh := Map.insert c.nh n r }
  | .v4 s => { c with ipv4 := Map.insert c.ipv4 s r }
  | .v6 s => { c with ipv6 := Map.insert c.ipv6 s r }
  | .mpls n => { c with mpls := Map.insert c.mpls n r }

/-- the body of the loop over `getres.GetEntry()` -/
def stepG (m : Map String GetCache) (r : GAFTEntry) : Map String GetCache :=
  let c : GetCache := (Map.get? m r.NetworkInstance).getD {}
  let m1 := if (Map.get? m r.NetworkInstance).isSome then m else Map.insert m r.NetworkInstance c
  match respKey r with
  | none => m1
  | some k => Map.insert m1 r.NetworkInstance (cachePut c r k)

/-- a guard in front of the recursive call is a guard on the key that is put; `c'` is the guard as the code writes it (the
`match` is `stepG`'s own, so that the generated leaves unify with it) -/
theorem guard_step {β : Type} (f : Map String GetCache → β) {c c' : Prop} [Decidable c] [Decidable c'] (h : c' ↔ c)
    (k : GKey) (m1 : Map String GetCache) (F : GKey → Map String GetCache) :
    f (match (if c then some k else none) with | none => m1 | some k => F k) = if c' then f (F k) else f m1 := by
  by_cases hc : c
  · rw [if_pos hc, if_pos (h.mpr hc)]
  · rw [if_neg hc, if_neg (mt h.mp hc)]

theorem loop1_step (wants : List (Option GAFTEntry)) (r : GAFTEntry) (l : List GAFTEntry) (m : Map String GetCache) :
    getResponseHasEntries.loop1 wants (r :: l) m = getResponseHasEntries.loop1 wants l (stepG m r) := by
  rcases r with ⟨ni, e⟩
  refine (getResponseHasEntries.loop1.eq_2 ..).trans ?_
  unfold stepG respKey
  -- the generated order: the lookup of the network instance, the type of the entry, its key
  cases Map.get? m ni <;> rcases e with _ | (x | x | x | x | x)
  case none.none | some.none => rfl
  case none.some.Mpls | some.some.Mpls => exact Eq.symm (guard_step (getResponseHasEntries.loop1 wants l) Iff.rfl ..)
  -- the code may write `x ≠ 0` the other way round: `rw [ne_comm]` turns both sides of the equivalence the same way
  all_goals exact Eq.symm (guard_step (getResponseHasEntries.loop1 wants l) (by rw [ne_comm]) ..)

theorem cacheHas_put (c : GetCache) (r : GAFTEntry) (k k' : GKey) :
    cacheHas (cachePut c r k) k' = (cacheHas c k' || k == k') := by
  by_cases h : k = k'
  · -- the key that was put is there
    subst h
    rw [beq_self_eq_true, Bool.or_true]
    cases k <;> exact congrArg Option.isSome (Map.get?_insert_self ..)
  · -- any other key is looked up as before: in an untouched map, or past the new binding
    rw [beq_eq_false_iff_ne.mpr h, Bool.or_false]
    cases k <;> cases k'
    case nhg.nhg | nh.nh | v4.v4 | v6.v6 | mpls.mpls =>
      exact congrArg Option.isSome (Map.get?_insert_ne _ _ fun e => h (congrArg _ e))
    all_goals rfl

theorem cacheHas_empty (k : GKey) : cacheHas {} k = false := by
  cases k <;> rfl

theorem look_step (m : Map String GetCache) (r : GAFTEntry) (ni : String) (k : GKey) :
    look (stepG m r) ni k = (look m ni k || (r.NetworkInstance == ni && respKey r == some k)) := by
  unfold stepG look
  cases hk : respKey r with
  | none =>
    cases hm : Map.get? m r.NetworkInstance with
    | some c => simp
    | none =>
      by_cases hn : r.NetworkInstance = ni
      · subst hn; simp [hm, cacheHas_empty]
      · simp [Map.get?_insert, hn]
  | some k0 =>
    by_cases hn : r.NetworkInstance = ni
    · subst hn
      cases hm : Map.get? m r.NetworkInstance with
      | some c => simp [cacheHas_put]
      | none => simp [cacheHas_put, cacheHas_empty]
    · cases Map.get? m r.NetworkInstance <;> simp [Map.get?_insert, hn]

/-- the body of the loop over the wants, `f` for the lookup in the index -/
def wantOK (f : String → GKey → Bool) (w : Option GAFTEntry) : Bool :=
  match w with
  | none => false
  | some p =>
    p.NetworkInstance ≠ "" &&
    match p.Entry with
    | none => false
    | some k => f p.NetworkInstance (wantKey k)

/-- (at the type of the generated code, so that the `match` is the generated one) -/
theorem isSome_and (o : Option GAFTEntry) (b : Bool) :
    (o.isSome && b) = match o with | none => false | some _ => b := by
  cases o <;> rfl

theorem loop2_eq (m : Map String GetCache) (wants : List (Option GAFTEntry)) :
    getResponseHasEntries.loop1.loop2 m wants = wants.all (wantOK (look m)) := by
  refine loop_all rfl (fun w t => ?_) wants
  -- By the want, in whichever order the code makes its tests: nil; naming no instance (with `ni = ""` both sides
  -- compute); else without an entry, or looked up in the index.
  rcases w with _ | ⟨ni, e⟩
  · rfl
  rw [getResponseHasEntries.loop1.loop2.eq_def]
  unfold wantOK look
  by_cases hn : ni = ""
  · subst hn; cases e <;> rfl
  · have := Ne.symm hn  -- the test of the name is decided whichever way round it is written
    simp only [*, ↓reduceIte, ne_eq, not_false_eq_true, decide_true, Bool.true_and]
    rcases e with _ | k
    · rfl
    · cases Map.get? m ni with
      | none => rfl
      | some c => cases k <;> exact Eq.symm (isSome_and ..)

theorem loop1_eq (wants : List (Option GAFTEntry)) :
    ∀ (l : List GAFTEntry) (m : Map String GetCache),
      getResponseHasEntries.loop1 wants l m =
        wants.all (wantOK fun ni k =>
          look m ni k || l.any fun e => e.NetworkInstance == ni && respKey e == some k) := by
  intro l
  induction l with
  | nil =>
    intro m
    rw [getResponseHasEntries.loop1.eq_1, loop2_eq]
    simp only [List.any_nil, Bool.or_false]
  | cons r t ih =>
    intro m
    rw [loop1_step, ih]
    congr 2
    funext ni k
    rw [look_step, List.any_cons, Bool.or_assoc]

/-- **`GetResponseHasEntries`** passes exactly when every wanted entry converts, names a network
instance, has an entry, and some response entry of that network instance is indexed under the
wanted type and key. (A want is represented by what its `EntryProto()` returns, `none` when that
fails: the test ends there, with `false`.) `getSpec` is `loop1`'s result from the empty index, by unfolding. -/
theorem gen_getResponseHasEntries (resp : List GAFTEntry) (wants : List (Option GAFTEntry)) (pe : Status) :
    Gen.getResponseHasEntries (some ⟨resp⟩) wants pe = getSpec resp wants :=
  loop1_eq wants resp []

/-- a nil response is an empty one (`GetEntry()` of a nil message) -/
theorem gen_getResponseHasEntries_nil (wants : List (Option GAFTEntry)) (pe : Status) :
    Gen.getResponseHasEntries none wants pe = getSpec [] wants :=
  loop1_eq wants [] []

/-! The hand-written model `Chk.getResponseHasEntries` (driven by the differential harness) has numeric keys as strings.
`num` is any injective rendering with `num 0 = "0"` (the model's `indexable` tests the key against "0"); the harness
uses Go's `fmt.Sprint`. -/

structure Rendering (num : Nat → String) : Prop where
  inj : ∀ a b, num a = num b → a = b
  zero : num 0 = "0"

def kindKey (num : Nat → String) : GKey → Chk.EKind × String
  | .nhg n => (.nhg, num n)
  | .nh n => (.nh, num n)
  | .v4 s => (.v4, s)
  | .v6 s => (.v6, s)
  | .mpls n => (.mpls, num n)

/-- a response entry as the model sees it: an entry without a type, or a label that is not the
uint64 member, is of kind `other` (never indexed) -/
def absR (num : Nat → String) (e : GAFTEntry) : Chk.GEntry :=
  match e.Entry with
  | none => ⟨e.NetworkInstance, .other, ""⟩
  | some (.Mpls x) =>
    if (x.map (·.LabelIsUint64)).getD false then ⟨e.NetworkInstance, .mpls, num ((x.map (·.LabelUint64)).getD 0)⟩
    else ⟨e.NetworkInstance, .other, ""⟩
  | some k => ⟨e.NetworkInstance, (kindKey num (wantKey k)).1, (kindKey num (wantKey k)).2⟩

/-- a wanted entry as the model sees it (nil, or without a type: never found) -/
def absW (num : Nat → String) (w : Option GAFTEntry) : Chk.GEntry :=
  match w with
  | none => ⟨"", .other, ""⟩
  | some p =>
    match p.Entry with
    | none => ⟨p.NetworkInstance, .other, ""⟩
    | some k => ⟨p.NetworkInstance, (kindKey num (wantKey k)).1, (kindKey num (wantKey k)).2⟩

theorem kindKey_inj (num : Nat → String) (hn : Rendering num) (a b : GKey) :
    kindKey num a = kindKey num b ↔ a = b := by
  refine ⟨fun h => ?_, congrArg _⟩
  cases a <;> cases b <;> cases (Prod.mk.inj h).1
  case nhg.nhg | nh.nh | mpls.mpls => exact congrArg _ (hn.inj _ _ (Prod.mk.inj h).2)
  case v4.v4 | v6.v6 => exact congrArg _ (Prod.mk.inj h).2

/-- a key under a guard, as the model tests it (`b`: indexable) and as the specification does:
equal type and equal rendering are equal keys -/
theorem key_match (num : Nat → String) (hn : Rendering num) {c : Prop} {d : Decidable c} {b : Bool}
    (hb : b = decide c) (g k : GKey) (n ni : String) :
    (b && n == ni && (kindKey num g).1 == (kindKey num k).1 && (kindKey num g).2 == (kindKey num k).2) =
      (n == ni && (if c then some g else none) == some k) := by
  rw [hb, Bool.eq_iff_iff]
  by_cases h : c <;> simp [h, ← kindKey_inj num hn g k, Prod.ext_iff, and_assoc]

/-- the last conjunct of `Chk.getResponseHasEntries`, on the abstracted entry, is the test of `getSpec` -/
theorem absR_match (num : Nat → String) (hn : Rendering num) (e : GAFTEntry) (ni : String) (k : GKey) :
    (Chk.indexable (absR num e) && (absR num e).ni == ni && (absR num e).kind == (kindKey num k).1 &&
        (absR num e).key == (kindKey num k).2)
      = (e.NetworkInstance == ni && respKey e == some k) := by
  have hz (n : Nat) : num n ≠ "0" ↔ n ≠ 0 := hn.zero ▸ not_congr ⟨hn.inj _ _, congrArg num⟩
  rcases e with ⟨n, _ | (x | x | x | x | (_ | ⟨l, _ | _⟩))⟩
  case some.NextHopGroup | some.NextHop => exact key_match num hn (decide_eq_decide.mpr (hz _)) ..
  case some.Ipv4 | some.Ipv6 => exact key_match num hn rfl ..
  case some.Mpls.some.true => exact key_match num hn (c := true = true) rfl (.mpls l) ..
  -- no type, or a label that is not the uint64 member: not indexable, no key
  all_goals exact (Bool.and_false _).symm

theorem any_and_any {α : Type} (l : List α) (f g : α → Bool) (h : ∀ a, g a → f a) :
    (l.any f && l.any g) = l.any g :=
  Bool.and_eq_right_iff_imp.mpr fun hg =>
    let ⟨a, ha, hga⟩ := List.any_eq_true.mp hg
    List.any_eq_true.mpr ⟨a, ha, h a hga⟩

theorem getSpec_model (num : Nat → String) (hn : Rendering num) (resp : List GAFTEntry)
    (wants : List (Option GAFTEntry)) :
    getSpec resp wants = Chk.getResponseHasEntries (resp.map (absR num)) (wants.map (absW num)) := by
  unfold getSpec Chk.getResponseHasEntries
  rw [List.all_map]
  refine congrArg (List.all wants) (funext fun w => ?_)
  unfold Function.comp
  rcases w with _ | ⟨ni, _ | k⟩
  -- nil, or without a type: the model sees the kind `other`
  iterate 2 simp only [absW, ne_eq, not_true_eq_false, decide_false, Bool.and_false, Bool.false_and]
  · have hk : (kindKey num (wantKey k)).1 ≠ .other := by cases k <;> exact nofun
    dsimp only [absW]
    rw [decide_eq_true hk, Bool.and_true, Bool.and_assoc, any_and_any, List.any_map]
    · exact congrArg _ (congrArg _ (funext fun e => (absR_match num hn e ni _).symm))
    · intro a ha
      simp only [Bool.and_eq_true] at ha
      exact ha.1.1.2

/-- **`GetResponseHasEntries` = the model's `getResponseHasEntries`**, for every response, every
list of wanted entries and every injective rendering of the numeric keys -/
theorem gen_getResponseHasEntries_model (num : Nat → String) (hn : Rendering num) (resp : List GAFTEntry)
    (wants : List (Option GAFTEntry)) (pe : Status) :
    Gen.getResponseHasEntries (some ⟨resp⟩) wants pe =
      Chk.getResponseHasEntries (resp.map (absR num)) (wants.map (absW num)) := by
  rw [gen_getResponseHasEntries, getSpec_model num hn]

/-- soundness in the words of the property: when the helper passes, every wanted entry is in the
response (same network instance, same type, same key) -/
theorem get_pass_present (resp : List GAFTEntry) (wants : List (Option GAFTEntry)) (pe : Status)
    (h : Gen.getResponseHasEntries (some ⟨resp⟩) wants pe = true) :
    ∀ w ∈ wants, ∃ p k, w = some p ∧ p.Entry = some k ∧
      ∃ e ∈ resp, e.NetworkInstance = p.NetworkInstance ∧ respKey e = some (wantKey k) := by
  rw [gen_getResponseHasEntries] at h
  intro w hw
  have hw := List.all_eq_true.mp h w hw
  rcases w with _ | ⟨ni, _ | k⟩
  · cases hw
  · cases (Bool.and_false _).symm.trans hw
  · obtain ⟨e, he, h3⟩ := List.any_eq_true.mp (Bool.and_eq_true_iff.mp hw).2
    have h4 := Bool.and_eq_true_iff.mp h3
    exact ⟨_, k, rfl, rfl, e, he, eq_of_beq h4.1, eq_of_beq h4.2⟩

/-- completeness: an entry the response does not hold (under the wanted key) fails the helper -/
theorem get_absent_fails (resp : List GAFTEntry) (wants : List (Option GAFTEntry)) (pe : Status)
    (p : GAFTEntry) (k : GKey) (hw : some p ∈ wants) (hk : p.Entry.map wantKey = some k)
    (habs : ∀ e ∈ resp, e.NetworkInstance = p.NetworkInstance → respKey e ≠ some k) :
    Gen.getResponseHasEntries (some ⟨resp⟩) wants pe = false := by
  refine Bool.eq_false_iff.mpr fun h => ?_
  obtain ⟨p', k', hp, hk', e, he, h1, h2⟩ := get_pass_present resp wants pe h _ hw
  cases hp
  rw [hk'] at hk
  exact habs e he h1 (h2.trans hk)

theorem gen_chkget_translated : Gen.getResponseHasEntries_problem = none := rfl

/-- non-vacuity: a response with a group and a label entry, wanted and unwanted entries -/
example :
    Gen.getResponseHasEntries (some ⟨[⟨"DEFAULT", some (.NextHopGroup (some ⟨7⟩))⟩, ⟨"VRF", some (.Mpls (some ⟨100, true⟩))⟩]⟩)
      [some ⟨"DEFAULT", some (.NextHopGroup (some ⟨7⟩))⟩, some ⟨"VRF", some (.Mpls (some ⟨100, true⟩))⟩] ⟨.Unknown, .none⟩ = true ∧
    Gen.getResponseHasEntries (some ⟨[⟨"DEFAULT", some (.NextHopGroup (some ⟨7⟩))⟩]⟩)
      [some ⟨"VRF", some (.NextHopGroup (some ⟨7⟩))⟩] ⟨.Unknown, .none⟩ = false := by
  decide +kernel

end Gribi.GenEquiv.ChkGet
