/-
The tie by translation, `chk.HasRecvClientErrorWithStatus` (chk/chk.go): the helper with which a
test asserts that the client saw a receive error with a given gRPC status. A status is its code,
message and (opaque) details; `*status.Status`, its protobuf and their copies are one structure;
what `status.FromError` makes of a receive error is how the error is represented (none: not a
status). The theorem gives the pass condition for every error, every wanted status and every list
of options, and shows it equal to the hand-written model's `Chk.hasRecvStatus`.
-/
import Gribi.Gen.HasRecvStatus
import Gribi.Props.GenEquiv.ChkErr
import Gribi.Props.GenEquiv.Loop
namespace Gribi.GenEquiv.ChkStatus
open Gribi Gribi.Gen

/-- does the receive error `e` match the acceptable status `wo`? (`f1`: AllowUnimplemented was
given, `f2`: IgnoreDetails was given) -/
def matchP (f1 f2 : Bool) (e wo : Option GStatus) : Bool :=
  match e with
  | none => false
  | some s =>
    let ns : GStatus := if (wo.map (·.Message)).getD "" = "" then { s with Message := "" } else s
    let ns : GStatus := if (f1 && (wo.map (·.Code)).getD 0 == 12) || f2 then { ns with Details := none } else ns
    decide (some ns = wo)

theorem loop3_eq (f1 f2 : Bool) (e : Option GStatus) : ∀ (l : List (Option GStatus)) (found : Bool),
    hasRecvStatus.loop2.loop3 f1 f2 e l found = Sum.inr (found || l.any (matchP f1 f2 e)) := by
  refine loop_any (fun _ => rfl) fun wo t found => ?_
  cases e with
  | none => exact congrArg _ (Bool.or_false _).symm
  | some s =>
    -- the flag is set where the statuses are equal (`ite_found`)
    refine (hasRecvStatus.loop2.loop3.eq_3 ..).trans (Eq.trans ?_ (ite_found ..))
    unfold matchP
    -- By the answers of the code's tests, in whichever order and way round it makes them: has the acceptable status a
    -- message; are the details dropped for every status (`f2`), or for `Unimplemented` (`f1`, and the code is 12). An
    -- inequality is given to `simp` both ways round.
    by_cases hm : (wo.map (·.Message)).getD "" = ""
    · cases f2 with
      | true => simp [hm]
      | false =>
        cases f1 with
        | false => simp [hm]
        | true =>
          by_cases h12 : (wo.map (·.Code)).getD 0 = 12
          · simp [hm, h12]
          · have := Ne.symm h12
            simp [*]
    · have := Ne.symm hm
      cases f2 with
      | true => simp [*]
      | false =>
        cases f1 with
        | false => simp [*]
        | true =>
          by_cases h12 : (wo.map (·.Code)).getD 0 = 12
          · simp [*]
          · have := Ne.symm h12
            simp [*]

theorem loop2_eq (okMsgs : List (Option GStatus)) (f1 f2 : Bool) : ∀ (l : List (Option GStatus)) (found : Bool),
    hasRecvStatus.loop2 okMsgs f1 f2 l found =
      Sum.inr (found || l.any (fun e => okMsgs.any (matchP f1 f2 e))) :=
  loop_any (fun _ => rfl) fun e t found => by rw [hasRecvStatus.loop2, loop3_eq]

/-- the acceptable statuses one option adds -/
def optMsgs (want : GStatus) (o : ErrOptG) : List (Option GStatus) :=
  (if o.IsAllowUnimplemented then [some ⟨12, "", none⟩] else []) ++
  (if o.IsIgnoreDetails then [some { want with Details := none }] else [])

theorem loop1_eq (want : GStatus) : ∀ (l : List ErrOptG) (ok : List (Option GStatus)) (f1 f2 : Bool),
    hasRecvStatus.loop1 want l ok f1 f2 =
      Sum.inr (ok ++ l.flatMap (optMsgs want), f1 || l.any (·.IsAllowUnimplemented), f2 || l.any (·.IsIgnoreDetails)) := by
  intro l
  induction l with
  | nil => intro ok f1 f2; simp [hasRecvStatus.loop1]
  | cons o t ih =>
    intro ok f1 f2
    rw [hasRecvStatus.loop1]
    cases h1 : o.IsAllowUnimplemented <;> cases h2 : o.IsIgnoreDetails <;>
      simp [ih, optMsgs, h1, h2, List.append_assoc]

/-- what `HasRecvClientErrorWithStatus` decides -/
def recvSpec (err : Option ErrView) (want : GStatus) (opts : List ErrOptG) : Bool :=
  let allow := opts.any (·.IsAllowUnimplemented)
  let ign := opts.any (·.IsIgnoreDetails)
  match err.bind (·.AsClientErr) with
  | none => false
  | some ce => ce.Recv.any (fun e => (some want :: opts.flatMap (optMsgs want)).any (matchP allow ign e))

/-- **`HasRecvClientErrorWithStatus`** passes exactly when the error is a ClientErr one of whose
receive errors is a status that matches one of the acceptable statuses — the wanted one, plain
`Unimplemented` with `AllowUnimplemented()`, the wanted one without details with `IgnoreDetails()`
— where the message is compared only if the acceptable status has one, and the details are dropped
for `Unimplemented` under `AllowUnimplemented()` and always under `IgnoreDetails()` -/
theorem gen_hasRecvStatus (err : Option ErrView) (want : GStatus) (opts : List ErrOptG) :
    Gen.hasRecvStatus err want opts = recvSpec err want opts := by
  unfold Gen.hasRecvStatus recvSpec
  simp only [loop1_eq, ChkErr.gen_clientError]
  cases err.bind (fun v => v.AsClientErr) with
  | none => rfl
  | some ce =>
    simp only [loop2_eq]
    exact ite_found id false _  -- the flag, `false` at first, is tested at the end

/-- a rendering of a status for the model: `rd` renders the details, injectively, nil as "" -/
structure DetRender (rd : Option String → String) : Prop where
  inj : ∀ a b, rd a = rd b → a = b
  nil : rd none = ""

def absSt (rd : Option String → String) (s : GStatus) : Chk.St := ⟨s.Code, s.Message, rd s.Details⟩

theorem absSt_inj (rd : Option String → String) (h : DetRender rd) (a b : GStatus) :
    absSt rd a = absSt rd b ↔ a = b := by
  refine ⟨fun e => ?_, congrArg _⟩
  rcases a with ⟨c1, m1, d1⟩
  rcases b with ⟨c2, m2, d2⟩
  obtain ⟨rfl, rfl, e3⟩ := Chk.St.mk.inj e
  exact congrArg (GStatus.mk c1 m1) (h.inj d1 d2 e3)

theorem absSt_noDetails {rd : Option String → String} (h : DetRender rd) (x : GStatus) :
    ({ absSt rd x with det := "" } : Chk.St) = absSt rd { x with Details := none } := by
  simp only [absSt, h.nil]

/-- the code's test of a received status against an acceptable one is the body of the model's `Chk.hasRecvStatus`, on the
renderings -/
theorem matchP_model (rd : Option String → String) (h : DetRender rd) (f1 f2 : Bool) (s wo : GStatus) :
    matchP f1 f2 (some s) (some wo) =
      (let w := absSt rd wo
       let ns := if w.msg == "" then { absSt rd s with msg := "" } else absSt rd s
       let ns := if (f1 && w.code == Chk.unimplemented) || f2 then { ns with det := "" } else ns
       ns == w) := by
  -- blanking the message commutes with the rendering too, which is injective
  have hmsg : ∀ x : GStatus, ({ absSt rd x with msg := "" } : Chk.St) = absSt rd { x with Message := "" } := fun _ => rfl
  have hw : (absSt rd wo).msg = wo.Message ∧ (absSt rd wo).code = wo.Code := ⟨rfl, rfl⟩
  simp only [matchP, Option.map_some, Option.getD_some, Option.some.injEq, Chk.unimplemented, hw.1, hw.2, hmsg,
    beq_iff_eq, ← apply_ite (absSt rd), absSt_noDetails h]
  rw [Bool.eq_iff_iff, decide_eq_true_eq, beq_iff_eq, absSt_inj rd h]

/-- the model's `okMsgs`, of the code's statuses -/
def okList (want : GStatus) (allow ign : Bool) : List GStatus :=
  [want] ++ (if allow then [⟨12, "", none⟩] else []) ++ (if ign then [{ want with Details := none }] else [])

/-- the theorem below for a ClientErr and any list of options that adds, of each kind, what one option does -/
theorem recv_model (rd : Option String → String) (h : DetRender rd) (ce : ClientErrG) (want : GStatus) (opts : List ErrOptG)
    (h3 : some want :: opts.flatMap (optMsgs want) =
      (okList want (opts.any (·.IsAllowUnimplemented)) (opts.any (·.IsIgnoreDetails))).map some) :
    recvSpec (some ⟨some ce⟩) want opts =
      Chk.hasRecvStatus (.clientErr ce.Send.length (ce.Recv.map (·.map (absSt rd)))) (absSt rd want)
        (opts.any (·.IsAllowUnimplemented)) (opts.any (·.IsIgnoreDetails)) := by
  -- the model's acceptable statuses are the renderings of the code's (`rd none = ""`)
  have h4 (allow ign : Bool) : ([absSt rd want] ++ (if allow then [{ code := Chk.unimplemented }] else []) ++
      (if ign then [{ absSt rd want with det := "" }] else []) : List Chk.St) = (okList want allow ign).map (absSt rd) := by
    have hU : ({ code := Chk.unimplemented } : Chk.St) = absSt rd ⟨12, "", none⟩ := by simp only [absSt, h.nil]; rfl
    rw [hU, absSt_noDetails h]
    cases allow <;> cases ign <;> rfl
  simp only [recvSpec, Option.bind_some, h3, Chk.hasRecvStatus, h4, List.any_map]
  refine congrArg ce.Recv.any (funext fun e => ?_)
  cases e with
  | none => exact List.any_eq_false.mpr fun _ _ => Bool.false_ne_true
  | some s => exact congrArg (List.any _) (funext fun wo => matchP_model rd h _ _ s wo)

/-- **`HasRecvClientErrorWithStatus` = the model's `hasRecvStatus`**, stated for the four option lists in which each kind
of option occurs at most once, `AllowUnimplemented()` before `IgnoreDetails()`. (Another order or a repetition permutes or
repeats the acceptable statuses; such lists are covered by `gen_hasRecvStatus`, not by this statement.) -/
theorem gen_hasRecvStatus_model (rd : Option String → String) (h : DetRender rd)
    (err : Option ErrView) (want : GStatus) (allow ign : Bool) :
    Gen.hasRecvStatus err want ((if allow then [⟨true, false⟩] else []) ++ (if ign then [⟨false, true⟩] else [])) =
      Chk.hasRecvStatus (ChkErr.absErr (fun e => e.map (absSt rd)) err) (absSt rd want) allow ign := by
  rw [gen_hasRecvStatus]
  rcases err with _ | ⟨_ | ce⟩
  · rfl
  · rfl
  · cases allow <;> cases ign <;> exact recv_model rd h ce want _ rfl

theorem gen_chkstatus_translated : Gen.hasRecvStatus_problem = none := rfl

/-- non-vacuity: an Unimplemented error passes a check for FailedPrecondition only with AllowUnimplemented -/
example :
    Gen.hasRecvStatus (some ⟨some ⟨[], [some ⟨12, "not supported", some "d"⟩]⟩⟩) ⟨9, "", none⟩ [⟨true, false⟩] = true ∧
    Gen.hasRecvStatus (some ⟨some ⟨[], [some ⟨12, "not supported", some "d"⟩]⟩⟩) ⟨9, "", none⟩ [] = false := by
  decide +kernel

end Gribi.GenEquiv.ChkStatus
