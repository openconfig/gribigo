/-
The tie by translation, the client's accounting (client/gribiclient.go): `Q`, `handleModifyRequest`
(`addPendingOp`, `updatePendingElection`, `pendingSessionParams`), `handleModifyResponse`
(`clearPendingElection`, `clearPendingSessionParams`, `clearPendingOp`), `isConverged`
(`pendingQueue.Len`).

The generated definitions work on the client's own data (`map[uint64]*PendingOp`, the two
pending markers, the result queue of `*OpResult`); the hand-written model `Gribi.Cl` of
`Gribi/Model/Client.lean` (the one C13 and C14 are proved about) keeps of each pending operation
an `OpInfo`. The theorems below hold for *every* function `f` from the details the code reports
(`OpDetailsResults`) to `OpInfo`, for every `constants.OpFromAFTOp`, every clock value, every
message: on related states the code and the model take the same step and end in related states.

The package variable `TreatRIBACKAsCompletedInFIBACKMode` is `false` unless a caller sets it; the
model describes that setting, and the theorems are stated for it (`treat = false`).
-/
import Gribi.Gen.HandleModifyRequest
import Gribi.Gen.HandleModifyResponse
import Gribi.Gen.IsConverged
import Gribi.Gen.ClientQ
import Gribi.Lemmas.Client
namespace Gribi.GenEquiv.Client
open Gribi Gribi.Gen

/-- `spb.AFTResult_Status` by wire number as the model's status -/
def statusOf (n : Nat) : Cl.Status :=
  if n = 1 then .failed else if n = 2 then .rib else if n = 3 then .fib else if n = 4 then .fibFailed else .other

/-- what `clearPendingOp` reports about an operation: its type and the key of its entry -/
def detOf (opFrom : Nat → Nat) (o : AFTOperationC) : OpDetailsResults :=
  let d : OpDetailsResults :=
    { Type_ := opFrom o.Op, NextHopIndex := 0, NextHopGroupID := 0, IPv4Prefix := "", IPv6Prefix := "", MPLSLabel := 0 }
  match o.Entry with
  | some (.Ipv4 e) => { d with IPv4Prefix := (e.map (·.Prefix)).getD "" }
  | some (.Ipv6 e) => { d with IPv6Prefix := (e.map (·.Prefix)).getD "" }
  | some (.Mpls e) => { d with MPLSLabel := (e.map (·.LabelUint64)).getD 0 }
  | some (.NextHopGroup e) => { d with NextHopGroupID := (e.map (·.Id)).getD 0 }
  | some (.NextHop e) => { d with NextHopIndex := (e.map (·.Index)).getD 0 }
  | none => d

section
variable (f : OpDetailsResults → Cl.OpInfo) (opFrom : Nat → Nat)

def opOf (o : AFTOperationC) : Nat × Cl.OpInfo := (o.Id, f (detOf opFrom o))

def absPend (m : Map Nat PendingOp) : Map Nat Cl.OpInfo := m.map (fun e => (e.1, f (detOf opFrom e.2.Op)))

def absRes (r : COpResult) : Cl.Res :=
  if r.CurrentServerElectionID.isSome then { isElec := true, clientErr := r.ClientError != "" }
  else if r.SessionParameters.isSome then { isParams := true, clientErr := r.ClientError != "" }
  else { opId := r.OperationID, status := some (statusOf r.ProgrammingResult), details := r.Details.map f }

def absResq (q : List (Option COpResult)) : List (Option Cl.Res) := q.map (·.map (absRes f))

def absReq (m : ModifyRequestC) : Cl.Req :=
  { ops := m.Operation.map (opOf f opFrom), elec := m.ElectionId.isSome, params := m.Params.isSome }

def absResp (m : ModifyResponseC) : Cl.Resp :=
  { results := (m.Result.getD []).map (fun r => (r.Id, statusOf r.Status)), hasResults := m.Result.isSome,
    elec := m.ElectionId.isSome, params := m.SessionParamsResult.isSome }

theorem get?_absPend (m : Map Nat PendingOp) (k : Nat) :
    Map.get? (absPend f opFrom m) k = (Map.get? m k).map (fun p => f (detOf opFrom p.Op)) :=
  Map.get?_rename id (fun p : PendingOp => f (detOf opFrom p.Op)) (fun _ _ h => h) m k

theorem erase_absPend (m : Map Nat PendingOp) (k : Nat) :
    Map.erase (absPend f opFrom m) k = absPend f opFrom (Map.erase m k) :=
  List.filter_map

theorem insert_absPend (m : Map Nat PendingOp) (k : Nat) (p : PendingOp) :
    Map.insert (absPend f opFrom m) k (f (detOf opFrom p.Op)) = absPend f opFrom (Map.insert m k p) :=
  congrArg (List.cons _) (erase_absPend f opFrom m k)

theorem gen_addPendingOp (op : AFTOperationC) (now : Int) (pend : Map Nat PendingOp) :
    Gen.addPendingOp op now pend =
      if (absPend f opFrom pend).has op.Id then (some ⟨.Unknown, .none⟩, pend)
      else (none, Map.insert pend op.Id ⟨now, op⟩) := by
  unfold Gen.addPendingOp Map.has
  rw [get?_absPend]
  cases Map.get? pend op.Id <;> rfl

theorem request_loop (m : ModifyRequestC) (now : Int) (pe : Option ElectionReqDetails) (pp : Option SessionParamReqDetails)
    (log : List (Nat × Cl.OpInfo)) :
    ∀ (ops : List AFTOperationC) (pend : Map Nat PendingOp),
      let r := handleModifyRequest.loop1 m now pe pp ops pend
      let a := Cl.addOps (absPend f opFrom pend) log (ops.map (opOf f opFrom))
      absPend f opFrom r.2.1 = a.1 ∧ r.1.isNone = a.2.2 ∧
      (a.2.2 = true → r.2.2.1.isSome = (pe.isSome || m.ElectionId.isSome) ∧ r.2.2.2.isSome = (pp.isSome || m.Params.isSome)) ∧
      (a.2.2 = false → r.2.2.1 = pe ∧ r.2.2.2 = pp) := by
  intro ops
  induction ops generalizing log with
  | nil =>
    -- the base case of the generated loop is the code after it: four branches that set the markers the request has
    intro pend
    rw [handleModifyRequest.loop1]
    cases m.ElectionId <;> cases m.Params <;> simp [Cl.addOps, updatePendingElection, pendingSessionParams]
  | cons o rest ih =>
    intro pend
    rw [List.map_cons, opOf, Cl.addOps, handleModifyRequest.loop1, gen_addPendingOp f opFrom]
    by_cases h : (absPend f opFrom pend).has o.Id = true
    · simp [h]
    · rw [if_neg h, if_neg h, insert_absPend f opFrom pend o.Id ⟨now, o⟩]
      exact ih _ _

/-- `handleModifyRequest` = the accounting half of the model's `q` (`log`: the model's ghost log of accepted
operations, which the code does not keep and `addOps` only extends) -/
theorem gen_handleModifyRequest (m : ModifyRequestC) (now : Int) (pend : Map Nat PendingOp)
    (pe : Option ElectionReqDetails) (pp : Option SessionParamReqDetails) (log : List (Nat × Cl.OpInfo)) :
    let r := Gen.handleModifyRequest m now pend pe pp
    let a := Cl.addOps (absPend f opFrom pend) log ((absReq f opFrom m).ops)
    absPend f opFrom r.2.1 = a.1 ∧ r.1.isNone = a.2.2 ∧
    (a.2.2 = true → r.2.2.1.isSome = (pe.isSome || (absReq f opFrom m).elec) ∧ r.2.2.2.isSome = (pp.isSome || (absReq f opFrom m).params)) ∧
    (a.2.2 = false → r.2.2.1 = pe ∧ r.2.2.2 = pp) :=
  request_loop f opFrom m now pe pp log m.Operation pend

end

def fibMode (sp : Option SessionParameters) : Bool := (sp.map (·.AckType)).getD 0 == SessionParameters_RIB_AND_FIB_ACK

def terminalN (fib : Bool) (st : Nat) : Bool :=
  st = AFTResult_FIB_FAILED || st = AFTResult_FIB_PROGRAMMED || st = AFTResult_FAILED || (st = AFTResult_RIB_PROGRAMMED && !fib)

/-- `clearPendingOp` with `TreatRIBACKAsCompletedInFIBACKMode = false`, said directly -/
def clearSpec (opFrom : Nat → Nat) (op : AFTResultC) (now : Int) (sp : Option SessionParameters) (pend : Map Nat PendingOp) :
    Option COpResult × Option Status × Map Nat PendingOp :=
  match Map.get? pend op.Id with
  | none =>
    if op.Status = AFTResult_RIB_PROGRAMMED ∧ fibMode sp = true then
      (some { Timestamp := now, Latency := 0, CurrentServerElectionID := none, SessionParameters := none, OperationID := op.Id,
              ClientError := "", ServerError := "", ProgrammingResult := op.Status, Details := none }, none, pend)
    else (none, some ⟨.Unknown, .none⟩, pend)
  | some p =>
    (some { Timestamp := now, Latency := now - p.Timestamp, CurrentServerElectionID := none, SessionParameters := none,
            OperationID := op.Id, ClientError := "", ServerError := (op.ErrorDetails.map (·.ErrorMessage)).getD "",
            ProgrammingResult := op.Status, Details := some (detOf opFrom p.Op) }, none,
     if terminalN (fibMode sp) op.Status then Map.erase pend op.Id else pend)

theorem status_cases (n : Nat) : n = 1 ∨ n = 2 ∨ n = 3 ∨ n = 4 ∨ n ≠ 1 ∧ n ≠ 2 ∧ n ≠ 3 ∧ n ≠ 4 := by omega

theorem terminalN_iff (sp : Option SessionParameters) (n : Nat) :
    terminalN (fibMode sp) n = true ↔ n = 4 ∨ n = 3 ∨ n = 1 ∨ n = 2 ∧ ¬(sp.map (·.AckType)).getD 0 = 1 := by
  unfold terminalN fibMode AFTResult_FIB_FAILED AFTResult_FIB_PROGRAMMED AFTResult_RIB_PROGRAMMED AFTResult_FAILED
    SessionParameters_RIB_AND_FIB_ACK
  simp only [Bool.or_eq_true, Bool.and_eq_true, decide_eq_true_eq, Bool.not_eq_true', beq_eq_false_iff_ne, ne_eq, or_assoc]

theorem gen_clearPendingOp (opFrom : Nat → Nat) (op : AFTResultC) (now : Int) (sp : Option SessionParameters) (pend : Map Nat PendingOp) :
    Gen.clearPendingOp op now false sp opFrom pend = clearSpec opFrom op now sp pend := by
  unfold Gen.clearPendingOp clearSpec
  refine (if_neg Bool.false_ne_true).trans ?_
  cases Map.get? pend op.Id with
  | none =>
    -- with `treat = false` the test for FIB_PROGRAMMED decides nothing: both its branches go on to the same tests
    simp only [Bool.false_eq_true, if_false, ite_self, fibMode, beq_iff_eq]
    -- by the answers of the two tests that are left, in whichever order and way round the code makes them (an inequality
    -- is given to `simp` both ways round)
    by_cases h2 : op.Status = AFTResult_RIB_PROGRAMMED
    · by_cases h3 : (sp.map (·.AckType)).getD 0 = SessionParameters_RIB_AND_FIB_ACK
      · simp [h2, h3]
      · have := Ne.symm h3
        simp [*]
    · have := Ne.symm h2
      simp [*]
  | some p =>
    -- (`show`: the two matches on `some p` reduce, so that `p.Op.Entry` stands in the goal for `cases` to find)
    show (if _ then _ else _) = (some _, none, _)
    unfold detOf
    -- By the value of the status (and, for RIB_PROGRAMMED, of the acknowledgement mode), not by the order in which the
    -- code tests them: a reordering of the `switch` must not break this proof (DESIGN.md 11.3). The value decides every
    -- test on the way, on both sides; what is left of the code is its cases on the entry, which are `detOf`'s.
    rcases status_cases op.Status with h | h | h | h | ⟨h1, h2, h3, h4⟩
    case' inr.inl => by_cases hm : (sp.map (·.AckType)).getD 0 = 1
    all_goals simp +decide only [*, ↓reduceIte, terminalN_iff, ne_eq, AFTResult_FIB_FAILED, AFTResult_FIB_PROGRAMMED,
      AFTResult_RIB_PROGRAMMED, AFTResult_FAILED, SessionParameters_RIB_AND_FIB_ACK]
    all_goals cases p.Op.Entry with | none => rfl | some e => cases e <;> rfl

/-- the loop over `m.Result` of `handleModifyResponse`, with `clearSpec` for `clearPendingOp` -/
def clearLoop (opFrom : Nat → Nat) (now : Int) (sp : Option SessionParameters) :
    List AFTResultC → Map Nat PendingOp → List (Option COpResult) → Option Status × Map Nat PendingOp × List (Option COpResult)
  | [], pend, rq => (none, pend, rq)
  | r :: rest, pend, rq =>
    let c := clearSpec opFrom r now sp pend
    match c.2.1 with
    | none => clearLoop opFrom now sp rest c.2.2 (rq ++ [c.1])
    | some _ => (some ⟨.Unknown, .none⟩, c.2.2, rq ++ [c.1])

/-- any function with the two equations of the generated loop over the results (there are four copies of it, passing
different values `a`, `b` through) computes `clearLoop` -/
theorem clearLoop_of_eqs {A B : Type} {opFrom now sp} {a : A} {b : B}
    (loop : List AFTResultC → Map Nat PendingOp → List (Option COpResult) → Option Status × _ × A × B × _)
    (nil : ∀ pend rq, loop [] pend rq = (none, pend, a, b, rq))
    (cons : ∀ r t pend rq, loop (r :: t) pend rq =
      let c := Gen.clearPendingOp r now false sp opFrom pend
      match c.2.1 with
      | none => loop t c.2.2 (rq ++ [c.1])
      | some _ => (some ⟨.Unknown, .none⟩, c.2.2, a, b, rq ++ [c.1])) (l pend rq) :
    loop l pend rq = (fun c => (c.1, c.2.1, a, b, c.2.2)) (clearLoop opFrom now sp l pend rq) := by
  induction l generalizing pend rq with
  | nil => rw [nil]; rfl
  | cons r t ih =>
    rw [cons, gen_clearPendingOp, clearLoop]
    dsimp only
    split
    · exact ih ..
    · rfl

theorem loop2_eq (opFrom : Nat → Nat) (now : Int) (sp : Option SessionParameters) (pe : Option ElectionReqDetails) (pp : Option SessionParamReqDetails) :
    ∀ (l : List AFTResultC) (pend : Map Nat PendingOp) (rq : List (Option COpResult)),
      handleModifyResponse.loop1.loop2 now false sp opFrom pe pp l pend rq =
        ((clearLoop opFrom now sp l pend rq).1, (clearLoop opFrom now sp l pend rq).2.1, pe, pp, (clearLoop opFrom now sp l pend rq).2.2) :=
  clearLoop_of_eqs _ (fun _ _ => rfl) fun _ _ _ _ => rfl

theorem loop3_eq (opFrom : Nat → Nat) (now : Int) (sp : Option SessionParameters) (pe : Option ElectionReqDetails) (pp : Option SessionParamReqDetails) :
    ∀ (l : List AFTResultC) (pend : Map Nat PendingOp) (rq : List (Option COpResult)),
      handleModifyResponse.loop1.loop3 now false sp opFrom pe pp l pend rq =
        ((clearLoop opFrom now sp l pend rq).1, (clearLoop opFrom now sp l pend rq).2.1, pe, pp, (clearLoop opFrom now sp l pend rq).2.2) :=
  clearLoop_of_eqs _ (fun _ _ => rfl) fun _ _ _ _ => rfl

theorem loop4_eq (opFrom : Nat → Nat) (now : Int) (sp : Option SessionParameters) (pe : Option ElectionReqDetails) (pp : Option SessionParamReqDetails) :
    ∀ (l : List AFTResultC) (pend : Map Nat PendingOp) (rq : List (Option COpResult)),
      handleModifyResponse.loop1.loop4 now false sp opFrom pp pe l pend rq =
        ((clearLoop opFrom now sp l pend rq).1, (clearLoop opFrom now sp l pend rq).2.1, pe, pp, (clearLoop opFrom now sp l pend rq).2.2) :=
  clearLoop_of_eqs _ (fun _ _ => rfl) fun _ _ _ _ => rfl

theorem loop5_eq (opFrom : Nat → Nat) (now : Int) (sp : Option SessionParameters) (pe : Option ElectionReqDetails) (pp : Option SessionParamReqDetails) :
    ∀ (l : List AFTResultC) (pend : Map Nat PendingOp) (rq : List (Option COpResult)),
      handleModifyResponse.loop1.loop5 now false sp opFrom pe pp l pend rq =
        ((clearLoop opFrom now sp l pend rq).1, (clearLoop opFrom now sp l pend rq).2.1, pe, pp, (clearLoop opFrom now sp l pend rq).2.2) :=
  clearLoop_of_eqs _ (fun _ _ => rfl) fun _ _ _ _ => rfl

section
variable (f : OpDetailsResults → Cl.OpInfo) (opFrom : Nat → Nat)

/-- The model's state `s` describes the client's data. The send queue, the sending flag and the error counters are not
part of it: the functions of this file take them as arguments or leave them to their callers (`ClientRun.FullRel`). -/
structure Rel (s : Cl.State) (sp : Option SessionParameters) (pend : Map Nat PendingOp)
    (pe : Option ElectionReqDetails) (pp : Option SessionParamReqDetails) (rq : List (Option COpResult)) : Prop where
  fib : s.fibMode = fibMode sp
  pend : s.pendOps = absPend f opFrom pend
  elec : s.pendElec = pe.isSome
  params : s.pendParams = pp.isSome
  res : s.results = absResq f rq

theorem statusOf_rib (n : Nat) : statusOf n = .rib ↔ n = AFTResult_RIB_PROGRAMMED := by
  rcases status_cases n with rfl | rfl | rfl | rfl | ⟨h1, h2, h3, h4⟩
  iterate 4 decide
  simp [statusOf, AFTResult_RIB_PROGRAMMED, *]

theorem terminal_eq (fib : Bool) (n : Nat) : Cl.terminal fib (statusOf n) = terminalN fib n := by
  rcases status_cases n with rfl | rfl | rfl | rfl | ⟨h1, h2, h3, h4⟩
  iterate 4 rfl
  simp [statusOf, terminalN, Cl.terminal, AFTResult_FIB_FAILED, AFTResult_FIB_PROGRAMMED, AFTResult_FAILED,
    AFTResult_RIB_PROGRAMMED, *]

variable {s : Cl.State} {sp : Option SessionParameters} {pend : Map Nat PendingOp} {pe : Option ElectionReqDetails}
  {pp : Option SessionParamReqDetails} {rq : List (Option COpResult)}

theorem Rel.append {pend' pe' pp'} (h : Rel f opFrom s sp pend pe pp rq) {P e p} (hP : P = absPend f opFrom pend')
    (he : e = pe'.isSome) (hp : p = pp'.isSome) (x) {y} (hy : x.map (absRes f) = y) :
    Rel f opFrom { s with pendOps := P, pendElec := e, pendParams := p, results := s.results ++ [y] } sp pend' pe' pp'
      (rq ++ [x]) :=
  ⟨h.fib, hP, he, hp, by
    show _ ++ _ = List.map _ _
    rw [List.map_append, h.res, ← hy]; rfl⟩

theorem clearOp_rel (h : Rel f opFrom s sp pend pe pp rq) (r : AFTResultC) (now : Int) {c a}
    (hc : clearSpec opFrom r now sp pend = c) (hm : Cl.clearOp s (r.Id, statusOf r.Status) = a) :
    Rel f opFrom a.1 sp c.2.2 pe pp (rq ++ [c.1]) ∧ a.2 = c.2.1.isNone := by
  unfold clearSpec at hc
  unfold Cl.clearOp at hm
  rw [h.pend, get?_absPend] at hm
  cases hg : Map.get? pend r.Id <;> rw [hg] at hc hm
  · by_cases ht : r.Status = AFTResult_RIB_PROGRAMMED ∧ fibMode sp = true
    · rw [if_pos ht] at hc
      rw [Option.map_none, if_pos ⟨(statusOf_rib _).2 ht.1, h.fib.trans ht.2⟩] at hm
      subst hc hm
      exact ⟨h.append f opFrom rfl h.elec h.params _ rfl, rfl⟩
    · rw [if_neg ht] at hc
      rw [Option.map_none, if_neg fun h' => ht ⟨(statusOf_rib _).1 h'.1, h.fib.symm.trans h'.2⟩] at hm
      subst hc hm
      exact ⟨h.append f opFrom rfl h.elec h.params _ rfl, rfl⟩
  · subst hc hm
    refine ⟨h.append f opFrom ?_ h.elec h.params _ rfl, rfl⟩
    rw [terminal_eq, h.fib, apply_ite (absPend f opFrom), erase_absPend]

theorem clearOps_rel (sp : Option SessionParameters) (pe : Option ElectionReqDetails) (pp : Option SessionParamReqDetails) (now : Int) :
    ∀ (l : List AFTResultC) (s : Cl.State) (pend : Map Nat PendingOp) (rq : List (Option COpResult)),
      Rel f opFrom s sp pend pe pp rq →
      Rel f opFrom (Cl.clearOps s (l.map (fun r => (r.Id, statusOf r.Status)))).1 sp (clearLoop opFrom now sp l pend rq).2.1 pe pp
          (clearLoop opFrom now sp l pend rq).2.2 ∧
        (Cl.clearOps s (l.map (fun r => (r.Id, statusOf r.Status)))).2 = (clearLoop opFrom now sp l pend rq).1.isNone := by
  intro l
  induction l with
  | nil => intro s pend rq h; exact ⟨h, rfl⟩
  | cons r rest ih =>
    intro s pend rq h
    rw [List.map_cons, Cl.clearOps, clearLoop]
    -- both loops go on exactly when the result was cleared
    generalize hm : Cl.clearOp s _ = a
    generalize hc : clearSpec opFrom r now sp pend = c
    obtain ⟨h1, h2⟩ := clearOp_rel f opFrom h r now hc hm
    obtain ⟨s1, ok⟩ := a
    obtain ⟨c1, c2, c3⟩ := c
    cases c2 with
    | none => cases h2; exact ih _ _ _ h1
    | some _ => cases h2; exact ⟨h1, rfl⟩

theorem gen_handleModifyResponse_nil (now : Int) (sp : Option SessionParameters) (pend : Map Nat PendingOp)
    (pe : Option ElectionReqDetails) (pp : Option SessionParamReqDetails) (rq : List (Option COpResult)) :
    Gen.handleModifyResponse none now false sp opFrom pend pe pp rq = (some ⟨.Unknown, .none⟩, pend, pe, pp, rq) := rfl

/-- the `m.ElectionId != nil` block of `handleModifyResponse` -/
def stepElec (now : Int) (m : ModifyResponseC) (pe : Option ElectionReqDetails) (rq : List (Option COpResult)) :
    Option ElectionReqDetails × List (Option COpResult) :=
  match m.ElectionId with
  | none => (pe, rq)
  | some e => ((Gen.clearPendingElection now pe).2,
      rq ++ [some { (Gen.clearPendingElection now pe).1 with CurrentServerElectionID := some e }])

/-- its `m.SessionParamsResult != nil` block -/
def stepParams (now : Int) (m : ModifyResponseC) (pp : Option SessionParamReqDetails) (rq : List (Option COpResult)) :
    Option SessionParamReqDetails × List (Option COpResult) :=
  match m.SessionParamsResult with
  | none => (pp, rq)
  | some r => ((Gen.clearPendingSessionParams now pp).2,
      rq ++ [some { (Gen.clearPendingSessionParams now pp).1 with SessionParameters := some r }])

theorem gen_response_shape (m : ModifyResponseC) (now : Int) (sp : Option SessionParameters) (pend : Map Nat PendingOp)
    (pe : Option ElectionReqDetails) (pp : Option SessionParamReqDetails) (rq : List (Option COpResult)) :
    Gen.handleModifyResponse (some m) now false sp opFrom pend pe pp rq =
      if Cl.populated (absResp m) > 1 then (some ⟨.Unknown, .none⟩, pend, pe, pp, rq)
      else
        let e := stepElec now m pe rq
        let p := stepParams now m pp e.2
        let r := clearLoop opFrom now sp (m.Result.getD []) pend p.2
        (r.1, r.2.1, e.1, p.1, r.2.2) := by
  -- the eight cases of which of (results, election id, parameters) are present. With at most one, what is left is the
  -- copy of the result loop the translation has on that path: none and results only are `loop2`, election only `loop3`,
  -- parameters only `loop4` (`loop5`, on the path with both, is never reached: two fields are refused first). With
  -- two or more the message is refused, by computation.
  obtain ⟨_ | _, _ | _, _ | _⟩ := m
  · exact loop2_eq ..
  · exact loop3_eq ..
  · exact loop4_eq ..
  · rfl
  · exact loop2_eq ..
  all_goals rfl

theorem noteElec_rel (h : Rel f opFrom s sp pend pe pp rq) (m : ModifyResponseC) (now : Int) :
    Rel f opFrom (Cl.noteElec s (absResp m)) sp pend (stepElec now m pe rq).1 pp (stepElec now m pe rq).2 := by
  unfold Cl.noteElec stepElec
  show Rel f opFrom (if m.ElectionId.isSome = true then _ else _) _ _ _ _ _
  cases m.ElectionId with
  | none => exact h
  | some e =>
    cases pe <;> exact h.append f opFrom (pe' := none) h.pend rfl h.params _ (by simp [absRes, clearPendingElection, h.elec])

theorem noteParams_rel (h : Rel f opFrom s sp pend pe pp rq) (m : ModifyResponseC) (now : Int) :
    Rel f opFrom (Cl.noteParams s (absResp m)) sp pend pe (stepParams now m pp rq).1 (stepParams now m pp rq).2 := by
  unfold Cl.noteParams stepParams
  show Rel f opFrom (if m.SessionParamsResult.isSome = true then _ else _) _ _ _ _ _
  cases m.SessionParamsResult with
  | none => exact h
  | some e => cases pp <;> exact h.append f opFrom (pp' := none) h.pend h.elec rfl _ (by simp [absRes, clearPendingSessionParams, h.params])

/-- `handleModifyResponse` = the model's `recv`: on related states the code and the model end in
related states, and the code returns an error exactly when the model's receiver stops -/
theorem gen_handleModifyResponse {s : Cl.State} {sp : Option SessionParameters} {pend : Map Nat PendingOp}
    {pe : Option ElectionReqDetails} {pp : Option SessionParamReqDetails} {rq : List (Option COpResult)}
    (h : Rel f opFrom s sp pend pe pp rq) (m : ModifyResponseC) (now : Int) :
    Rel f opFrom (Cl.recv s (absResp m)).1 sp
        (Gen.handleModifyResponse (some m) now false sp opFrom pend pe pp rq).2.1
        (Gen.handleModifyResponse (some m) now false sp opFrom pend pe pp rq).2.2.1
        (Gen.handleModifyResponse (some m) now false sp opFrom pend pe pp rq).2.2.2.1
        (Gen.handleModifyResponse (some m) now false sp opFrom pend pe pp rq).2.2.2.2 ∧
      (Cl.recv s (absResp m)).2 = (Gen.handleModifyResponse (some m) now false sp opFrom pend pe pp rq).1.isNone := by
  rw [gen_response_shape, Cl.recv_eq]
  by_cases hpop : Cl.populated (absResp m) > 1
  · rw [if_pos hpop, if_pos hpop]
    exact ⟨⟨h.1, h.2, h.3, h.4, h.5⟩, rfl⟩
  · rw [if_neg hpop, if_neg hpop]
    -- `Rel` does not read `recvErrs`, which is all that `recv_eq` changes after the loop: the fields are the loop's
    obtain ⟨h3, h4⟩ := clearOps_rel f opFrom sp _ _ now (m.Result.getD []) _ _ _
      (noteParams_rel f opFrom (noteElec_rel f opFrom h m now) m now)
    exact ⟨⟨h3.1, h3.2, h3.3, h3.4, h3.5⟩, h4⟩

end

theorem gen_pendingQueueLen (q : PendingQueue) :
    Gen.pendingQueueLen (some q) = q.Ops.length + (if q.Election.isSome then 1 else 0) + (if q.SessionParams.isSome then 1 else 0) := by
  obtain ⟨ops, el, sp⟩ := q
  -- in each of the code's four branches the markers that are there have been counted: a sum of the same three numbers
  cases sp <;> cases el <;> simp +arith [Gen.pendingQueueLen]

theorem marker_count (b : Bool) : (if b = true then 1 else 0) = 0 ↔ (!b) = true := by
  cases b <;> decide

/-- `isConverged` = the convergence test of the model's `await` -/
theorem gen_isConverged (f : OpDetailsResults → Cl.OpInfo) (opFrom : Nat → Nat) (sendq : List ModifyRequestC) (q : PendingQueue) :
    Gen.isConverged sendq (some q) =
      decide (sendq.map (absReq f opFrom) = [] ∧ absPend f opFrom q.Ops = [] ∧ (!q.Election.isSome) = true ∧ (!q.SessionParams.isSome) = true) := by
  unfold Gen.isConverged absPend
  rw [gen_pendingQueueLen, Bool.eq_iff_iff]
  simp only [Bool.and_eq_true, decide_eq_true_eq, Nat.add_eq_zero_iff, List.length_eq_zero_iff, List.map_eq_nil_iff,
    marker_count]
  -- the same four facts, in the order of the code's tests and in the statement's
  constructor <;> intro h <;> simp_all

/-- on a state without recorded errors the model's `await` answers by the generated `isConverged` (the test of the
error slices that `AwaitConverged` makes first is not translated) -/
theorem gen_await_converged (f : OpDetailsResults → Cl.OpInfo) (opFrom : Nat → Nat) (s : Cl.State) (sendq : List ModifyRequestC) (q : PendingQueue)
    (hq : s.sendq = sendq.map (absReq f opFrom)) (hp : s.pendOps = absPend f opFrom q.Ops)
    (he : s.pendElec = q.Election.isSome) (hpp : s.pendParams = q.SessionParams.isSome)
    (hs : s.sendErrs = 0) (hr : s.recvErrs = 0) :
    Cl.await s = if Gen.isConverged sendq (some q) then .converged else .notYet := by
  rw [gen_isConverged f opFrom]
  unfold Cl.await
  simp [hq, hp, he, hpp, hs, hr]

def isSendErr : Eff → Bool
  | .addSendErr _ => true
  | _ => false

theorem clientQ_eq (m now sending pend pe pp sendq) :
    Gen.clientQ m now sending pend pe pp sendq =
      let r := Gen.handleModifyRequest m now pend pe pp
      (r.2.1, r.2.2.1, r.2.2.2, if sending then sendq else sendq ++ [m],
        (if r.1.isNone then [] else [.addSendErr r.1]) ++ if sending then [.clientq (some m)] else []) := by
  unfold Gen.clientQ
  generalize Gen.handleModifyRequest m now pend pe pp = r
  obtain ⟨_ | _, _⟩ := r <;> cases sending <;> rfl

theorem marker_rel {α} {ok old b} {x x' : Option α} (h : old = x.isSome)
    (ht : ok = true → x'.isSome = (x.isSome || b)) (hf : ok = false → x' = x) :
    (if ok then old || b else old) = x'.isSome := by
  cases ok
  · rw [hf rfl, h]; rfl
  · rw [ht rfl, h]; rfl

/-- `Q` = the model's `q`: the accounting of `handleModifyRequest`, its error recorded as one send
error, and the request appended to the send queue exactly when the client is not sending yet
(otherwise it is handed to the sender: the effect `clientq`) -/
theorem gen_clientQ (f : OpDetailsResults → Cl.OpInfo) (opFrom : Nat → Nat) {s : Cl.State} {sp : Option SessionParameters}
    {pend : Map Nat PendingOp} {pe : Option ElectionReqDetails} {pp : Option SessionParamReqDetails} {rq : List (Option COpResult)}
    (h : Rel f opFrom s sp pend pe pp rq) (sendq : List ModifyRequestC) (hq : s.sendq = sendq.map (absReq f opFrom))
    (m : ModifyRequestC) (now : Int) :
    Rel f opFrom (Cl.q s (absReq f opFrom m)) sp
        (Gen.clientQ m now s.sending pend pe pp sendq).1 (Gen.clientQ m now s.sending pend pe pp sendq).2.1
        (Gen.clientQ m now s.sending pend pe pp sendq).2.2.1 rq ∧
      (Cl.q s (absReq f opFrom m)).sendq = (Gen.clientQ m now s.sending pend pe pp sendq).2.2.2.1.map (absReq f opFrom) ∧
      (Cl.q s (absReq f opFrom m)).sending = s.sending ∧
      (Cl.q s (absReq f opFrom m)).sendErrs = s.sendErrs + ((Gen.clientQ m now s.sending pend pe pp sendq).2.2.2.2.filter isSendErr).length ∧
      (Eff.clientq (some m) ∈ (Gen.clientQ m now s.sending pend pe pp sendq).2.2.2.2 ↔ s.sending = true) := by
  obtain ⟨h1, h2, h3, h4⟩ := gen_handleModifyRequest f opFrom m now pend pe pp s.accepted
  rw [clientQ_eq, Cl.q_eq, h.pend]
  dsimp only
  refine ⟨⟨h.fib, h1.symm, marker_rel h.elec (fun k => (h3 k).1) fun k => (h4 k).1,
    marker_rel h.params (fun k => (h3 k).2) fun k => (h4 k).2, h.res⟩, ?_, rfl, ?_, ?_⟩
  · rw [hq, apply_ite (List.map (absReq f opFrom)), List.map_append]; rfl
  · rw [← h2]
    cases (Gen.handleModifyRequest m now pend pe pp).1 <;> cases s.sending <;> rfl
  · cases (Gen.handleModifyRequest m now pend pe pp).1 <;> cases s.sending <;> simp

theorem gen_client_translated :
    Gen.addPendingOp_problem = none ∧ Gen.updatePendingElection_problem = none ∧ Gen.pendingSessionParams_problem = none ∧
    Gen.handleModifyRequest_problem = none ∧ Gen.clearPendingElection_problem = none ∧
    Gen.clearPendingSessionParams_problem = none ∧ Gen.clearPendingOp_problem = none ∧
    Gen.handleModifyResponse_problem = none ∧ Gen.pendingQueueLen_problem = none ∧ Gen.isConverged_problem = none ∧
    Gen.clientQ_problem = none :=
  ⟨rfl, rfl, rfl, rfl, rfl, rfl, rfl, rfl, rfl, rfl, rfl⟩

end Gribi.GenEquiv.Client
