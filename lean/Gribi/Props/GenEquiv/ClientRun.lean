/-
The client's accounting, end to end: a *run* of the functions regenerated from
client/gribiclient.go (`Q` and `handleModifyResponse` as translated, the sending flag and the two
error counters as the code's callers maintain them) stays related to the run of the model `Cl`
that C13 is proved about, for every sequence of requests and responses. So the right side of C13's
conservation law can be read off the data the generated functions compute; its left side, how often
an id was accepted, stays the model's ghost log (the Go client keeps none).
-/
import Gribi.Props.GenEquiv.Client
import Gribi.Props.C13
namespace Gribi.GenEquiv.ClientRun
open Gribi Gribi.Gen Gribi.GenEquiv.Client

/-- `c.qs.sending`, `c.qs.sendq`, `c.qs.pendq` (`Ops`, `Election`, `SessionParams`), `c.qs.resultq`, and the lengths of
`c.sendErr` and `c.readErr` -/
structure CState where
  sending : Bool := false
  sendq : List ModifyRequestC := []
  pend : Map Nat PendingOp := []
  pe : Option ElectionReqDetails := none
  pp : Option SessionParamReqDetails := none
  rq : List (Option COpResult) := []
  sendErrs : Nat := 0
  recvErrs : Nat := 0

inductive CEv where
  | q (m : ModifyRequestC) (now : Int)
  | startSending
  | recv (m : ModifyResponseC) (now : Int)
  | recvErr
  | sendErr

/-- `.q` and `.recv` by the generated functions; the rest written by hand after the Go callers. `Q`'s `addSendErr` is a
recorded effect, counted here; `respHandler` (in `Connect`) calls `addReadErr` when `handleModifyResponse` fails, and
when the stream does (`.recvErr`); `reqHandler` calls `addSendErr` when `stream.Send` fails (`.sendErr`); `StartSending`
sets the flag and empties the queue (its own `Q` calls for the initial parameters and election id are `.q` events). -/
def cstep (sp : Option SessionParameters) (opFrom : Nat → Nat) (c : CState) : CEv → CState
  | .q m now =>
    let r := Gen.clientQ m now c.sending c.pend c.pe c.pp c.sendq
    { c with pend := r.1, pe := r.2.1, pp := r.2.2.1, sendq := r.2.2.2.1,
             sendErrs := c.sendErrs + (r.2.2.2.2.filter isSendErr).length }
  | .startSending => { c with sending := true, sendq := [] }
  | .recv m now =>
    let r := Gen.handleModifyResponse (some m) now false sp opFrom c.pend c.pe c.pp c.rq
    { c with pend := r.2.1, pe := r.2.2.1, pp := r.2.2.2.1, rq := r.2.2.2.2,
             recvErrs := c.recvErrs + (if r.1.isSome then 1 else 0) }
  | .recvErr => { c with recvErrs := c.recvErrs + 1 }
  | .sendErr => { c with sendErrs := c.sendErrs + 1 }

def crun (sp : Option SessionParameters) (opFrom : Nat → Nat) (c : CState) (evs : List CEv) : CState :=
  evs.foldl (cstep sp opFrom) c

section
variable (f : OpDetailsResults → Cl.OpInfo) (opFrom : Nat → Nat)

def absEv : CEv → Cl.Ev
  | .q m _ => .q (absReq f opFrom m)
  | .startSending => .startSending
  | .recv m _ => .recv (absResp m)
  | .recvErr => .recvErr
  | .sendErr => .sendErr

structure FullRel (s : Cl.State) (sp : Option SessionParameters) (c : CState) : Prop where
  rel : Rel f opFrom s sp c.pend c.pe c.pp c.rq
  sendq : s.sendq = c.sendq.map (absReq f opFrom)
  sending : s.sending = c.sending
  sendErrs : s.sendErrs = c.sendErrs
  recvErrs : s.recvErrs = c.recvErrs

/-- the fields the receiving side does not touch (of the last it only counts its own errors) -/
def frame (s : Cl.State) := (s.sendq, s.sending, s.sendErrs, s.recvErrs)

theorem clearOp_keeps (s r) : frame (Cl.clearOp s r).1 = frame s := by
  unfold Cl.clearOp
  cases s.pendOps.get? r.1 with
  | none => dsimp only; split <;> rfl
  | some _ => rfl

theorem clearOps_keeps (l) (s) : frame (Cl.clearOps s l).1 = frame s :=
  Cl.clearOps_invariant (P := fun s' => frame s' = frame s) (fun s' r h => (clearOp_keeps s' r).trans h) l s rfl

theorem note_keeps (s m) : frame (Cl.noteParams (Cl.noteElec s m) m) = frame s := by
  unfold Cl.noteParams Cl.noteElec
  cases m.elec <;> cases m.params <;> rfl

theorem recv_keeps (s m) :
    frame (Cl.recv s m).1 = (s.sendq, s.sending, s.sendErrs, s.recvErrs + if (Cl.recv s m).2 then 0 else 1) := by
  rw [Cl.recv_eq]
  by_cases h : Cl.populated m > 1
  · rw [if_pos h]; rfl
  · rw [if_neg h]
    exact congrArg (fun t => (t.1, t.2.1, t.2.2.1, t.2.2.2 + _)) ((clearOps_keeps m.results _).trans (note_keeps s m))

theorem q_recvErrs (s : Cl.State) (m : Cl.Req) : (Cl.q s m).recvErrs = s.recvErrs := by
  rw [Cl.q_eq]

theorem step_rel {s : Cl.State} {sp : Option SessionParameters} {c : CState} (h : FullRel f opFrom s sp c) (e : CEv) :
    FullRel f opFrom (Cl.step s (absEv f opFrom e)) sp (cstep sp opFrom c e) := by
  obtain ⟨hr, hq, hs, hse, hre⟩ := h
  -- in each case the two steps are first said outright (`show`), so that no definition is unfolded while matching
  cases e with
  | q m now =>
    show FullRel f opFrom (Cl.q s (absReq f opFrom m)) sp { c with pend := _, pe := _, pp := _, sendq := _, sendErrs := _ }
    obtain ⟨h1, h2, h3, h4, _⟩ := hs ▸ gen_clientQ f opFrom hr c.sendq hq m now
    exact ⟨h1, h2, h3, h4.trans (congrArg (· + _) hse), (q_recvErrs s (absReq f opFrom m)).trans hre⟩
  | startSending =>
    show FullRel f opFrom { s with sending := true, sendq := [] } sp { c with sending := true, sendq := [] }
    exact ⟨⟨hr.fib, hr.pend, hr.elec, hr.params, hr.res⟩, rfl, rfl, hse, hre⟩
  | recv m now =>
    show FullRel f opFrom (Cl.recv s (absResp m)).1 sp { c with pend := _, pe := _, pp := _, rq := _, recvErrs := _ }
    obtain ⟨h1, h1'⟩ := gen_handleModifyResponse f opFrom hr m now
    obtain ⟨k1, k2, k3, k4⟩ : _ ∧ _ ∧ _ ∧ _ := by simpa only [frame, Prod.mk.injEq] using recv_keeps s (absResp m)
    refine ⟨h1, k1.trans hq, k2.trans hs, k3.trans hse, k4.trans ?_⟩
    rw [hre, h1']
    cases (Gen.handleModifyResponse (some m) now false sp opFrom c.pend c.pe c.pp c.rq).1 <;> rfl
  | recvErr =>
    show FullRel f opFrom { s with recvErrs := _ } sp { c with recvErrs := _ }
    exact ⟨⟨hr.fib, hr.pend, hr.elec, hr.params, hr.res⟩, hq, hs, hse, congrArg (· + 1) hre⟩
  | sendErr =>
    show FullRel f opFrom { s with sendErrs := _ } sp { c with sendErrs := _ }
    exact ⟨⟨hr.fib, hr.pend, hr.elec, hr.params, hr.res⟩, hq, hs, congrArg (· + 1) hse, hre⟩

theorem run_rel (sp : Option SessionParameters) (evs : List CEv) : ∀ (s : Cl.State) (c : CState), FullRel f opFrom s sp c →
    FullRel f opFrom (Cl.run s (evs.map (absEv f opFrom))) sp (crun sp opFrom c evs) := by
  intro s c h
  unfold Cl.run crun
  rw [List.foldl_map]
  exact List.foldl_rel (r := fun s c => FullRel f opFrom s sp c) h fun e _ _ _ h => step_rel f opFrom h e

theorem init_rel (sp : Option SessionParameters) : FullRel f opFrom { fibMode := fibMode sp } sp {} :=
  ⟨⟨rfl, rfl, rfl, rfl, rfl⟩, rfl, rfl, rfl, rfl⟩

/-- **C13's conservation law with its right side read on the code's data.** Left: how often the run of the model `Cl`
on the abstracted events accepted `id` into its pending set — its ghost log `accepted`, of which the Go client has no
counterpart, so this side is not about generated data. Right: what the generated functions computed on the same events —
the completing results for `id` in their result queue + 1 if `id` is in their pending map. -/
theorem code_conservation (sp : Option SessionParameters) (evs : List CEv) (id : Nat) :
    C13.acceptedCount (Cl.run { fibMode := fibMode sp } (evs.map (absEv f opFrom))) id =
      (absResq f (crun sp opFrom {} evs).rq).countP (C13.isCompletion (fibMode sp) id) +
        (if (Map.get? (crun sp opFrom {} evs).pend id).isSome then 1 else 0) := by
  have hrel := run_rel f opFrom sp evs _ _ (init_rel f opFrom sp)
  have hc := C13.c13_conservation (fibMode sp) (evs.map (absEv f opFrom)) id
  rw [hc]
  unfold C13.completions C13.pendBit
  rw [hrel.rel.res, hrel.rel.pend, hrel.rel.fib]
  simp [Map.has, get?_absPend]

end
end Gribi.GenEquiv.ClientRun
