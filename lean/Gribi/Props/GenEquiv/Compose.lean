/-
Composition: the generated functions, wired together the way `Server.Modify` wires them (the
receive loop's dispatch, then the handler, then `deleteClient` when the RPC ends), act on the
session table and the election register exactly as one step `Server.recv` of the model does.

Here the oracles of the individual translations are discharged by the other translations: the
`consistent` flag of `checkParams` is what `checkClientsConsistent` computes on the same table,
`setClientParams` / `updateParams` / `storeClientElectionID` are the generated ones, the session
state `runElection` reads is what `getClientStateCopy` returns. What remains abstract is the RIB
(the calls `AddEntry` / `DeleteEntry` / `Flush` / `GetRIB`) and the goroutine plumbing of the RPC.
-/
import Gribi.Props.GenEquiv.Session
import Gribi.Props.GenEquiv.Params
namespace Gribi.GenEquiv
open Gribi Gribi.Gen

/-- the part of `server.Server` the handlers composed here read and write: `s.cs`, `s.curElecID`,
`s.curMaster` -/
structure GState where
  cs : Map String ClientState
  cur : Option U128
  master : String

def gstateOf (nm : Nat → String) (s : Server) : GState :=
  { cs := tableOf nm s.sess, cur := s.curElec, master := masterStr nm s.curMaster }

/-- a session-parameters message, as the code handles it: `checkParams` (its consistency oracle
answered by `checkClientsConsistent`, its store performed by `setClientParams`), then
`updateParams`; the first error ends the RPC and `deleteClient` removes the session -/
def runParams (id : String) (p : SessionParameters) (gotmsg : Bool) (g : GState) : Option Status × GState :=
  let cp : ClientParams :=
    { Persist := decide (p.Persistence = SessionParameters_PRESERVE),
      ExpectElecID := decide (p.Redundancy = SessionParameters_SINGLE_PRIMARY),
      FIBAck := decide (p.AckType = SessionParameters_RIB_AND_FIB_ACK) }
  let cons := Gen.checkClientsConsistent id (some cp) g.cs
  let setR := Gen.setClientParams id cp g.cs
  let chk := Gen.checkParams id (some p) gotmsg cons.1 cons.2.1 setR.1
  match chk.2.1 with
  | some e => (some e, { g with cs := Gen.deleteClient id g.cs })
  | none =>
    let up := Gen.updateParams id p setR.2
    match up.1 with
    | some e => (some e, { g with cs := Gen.deleteClient id up.2 })
    | none => (none, { g with cs := up.2 })

/-- the receive loop's first-message flag, which the model keeps in the session's entry and sets in the
step that accepts a message, is not part of the code's session table -/
theorem tableOf_gotMsg (nm : Nat → String) (hn : Naming nm) (m : Map Nat Sess) (c : Nat) (p : Params) (sp b b' : Bool)
    (le : Option U128) :
    tableOf nm (m.insert c ⟨p, sp, b, le⟩) = tableOf nm (m.insert c ⟨p, sp, b', le⟩) := by
  rw [← insert_tableOf nm hn, ← insert_tableOf nm hn]
  rfl

/-- **A session-parameters message, end to end.** For every server state, session and wire value of
the three enumerations: the composed generated code ends the RPC with the model's status, or
accepts exactly when the model does, and the resulting session table is the model's. -/
theorem compose_params (nm : Nat → String) (hn : Naming nm) (s : Server) (c : Nat) (x : Sess) (red pers ack : Nat)
    (h : s.sess.get? c = some x) :
    runParams (nm c) ⟨red, pers, ack⟩ x.gotMsg (gstateOf nm s) =
      let r := Server.finish c (Server.doParams s c x red pers ack)
      (r.2.term.map statusOf, gstateOf nm r.1) := by
  unfold runParams
  -- `updateParams` runs on the table `setClientParams` has left
  have hu := gen_updateParams nm hn { s with sess := s.sess.insert c { x with params := Server.paramsOf red pers ack } } c
    { x with params := Server.paramsOf red pers ack } red pers ack (Map.get?_insert_self ..)
  simp only [gstateOf, gparams_paramsOf, gen_checkClientsConsistent nm hn,
    gen_setClientParams nm hn s c x _ h, gen_checkParams, doParams_factors, hu, Map.insert_insert_self,
    Gen.deleteClient, erase_tableOf nm hn]
  cases checkParamsModel x.gotMsg red pers
      (s.sess.all fun e => e.1 == c || e.2.params == Server.paramsOf red pers ack) with
  | some t => rfl
  | none =>
    cases x.setParams with
    | true => simp only [if_true, erase_tableOf nm hn, Map.erase_insert_self]; rfl
    | false =>
      simp only [Bool.false_eq_true, if_false, tableOf_gotMsg nm hn s.sess c _ true x.gotMsg true]
      rfl

/-- an election announcement, as the code handles it: `runElection` reads the session through
`getClientStateCopy`, stores the id through `storeClientElectionID`, compares and sets the
register; an error ends the RPC and `deleteClient` removes the session -/
def runElec (id : String) (e : U128) (g : GState) : Option MResp × Option Status × GState :=
  let cp := Gen.getClientStateCopy id g.cs
  let st := Gen.storeClientElectionID id (some e) g.cs
  let r := Gen.runElection id e cp.1 ⟨.Unknown, .none⟩ st.1 g.cur g.master
  match r.2.1 with
  | some err => (none, some err, { g with cs := Gen.deleteClient id g.cs })
  | none => (r.1, none, { cs := st.2, cur := r.2.2.1, master := r.2.2.2.1 })

/-- **An election announcement, end to end.** Same rejections, same response, same register, same
session table as the model's `doElec` followed by `finish`. -/
theorem compose_elec (nm : Nat → String) (hn : Naming nm) (s : Server) (c : Nat) (x : Sess) (e : U128)
    (h : s.sess.get? c = some x) :
    runElec (nm c) e (gstateOf nm s) =
      let r := Server.finish c (Server.doElec s c x e)
      ((match r.2.resps with | [.elec cur] => some (.elec cur) | _ => none), r.2.term.map statusOf, gstateOf nm r.1) := by
  unfold runElec
  simp only [gstateOf, gen_getClientStateCopy nm hn, h, gen_storeClientElectionID nm hn s c x e h, gen_runElection,
    gen_deleteClient nm hn]
  rw [tableOf_gotMsg nm hn s.sess c x.params x.setParams x.gotMsg true (some e)]
  unfold Server.doElec
  cases x.params.expectElec with
  | false => rfl
  | true =>
    cases e.isZero with
    | true => rfl
    | false => cases Server.isNewMaster e s.curElec <;> rfl

/-- connecting and going away are `newClient` and `deleteClient` -/
theorem compose_connect_close (nm : Nat → String) (hn : Naming nm) (s : Server) (c : Nat) (hfresh : s.sess.get? c = none) :
    (Gen.newClient (nm c) (gstateOf nm s).cs).2 = (gstateOf nm (s.connect c)).cs ∧
    Gen.deleteClient (nm c) (gstateOf nm s).cs = (gstateOf nm (s.close c)).cs :=
  ⟨congrArg Prod.snd (gen_newClient nm hn s c hfresh), gen_deleteClient nm hn s c⟩

end Gribi.GenEquiv
