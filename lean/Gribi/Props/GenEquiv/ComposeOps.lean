/-
Composition, one operation end to end: `doModify` for a message with one operation, its
`modifyEntry` oracle answered by the generated `modifyEntry` itself, whose RIB oracles are answered
by the model's RIB (`Rib.add` / `Rib.del`): what is written to the stream — the response, or the
error that ends the RPC — is the model's `Server.modifyOne`, and `modifyEntry` is called exactly
once, with the session's acknowledgement mode and the election record of the message.

A message with several operations iterates this step: the generated loop is `modLoop`
(`doModify_loop_spec`), the model's is `modifyLoop`, and both thread the RIB from one operation to
the next. (The oracles of a translated loop are functions of the call's arguments, so a theorem
about a whole batch in one piece would need the operations of the batch to be pairwise distinct;
the step is stated instead.)
-/
import Gribi.Props.GenEquiv.DoModify
import Gribi.Props.GenEquiv.Modify
namespace Gribi.GenEquiv
open Gribi Gribi.Gen

/-- an operation as `doModify` sees it (with its network instance) -/
def gopNI (op : Op) : AFTOperation := { gop op with NetworkInstance := op.ni }

/-- what `modifyEntry` returns for the model's answer to one operation -/
def outOf : Resp ⊕ Term → Option MResp × Option Status
  | .inr t => (none, some (statusOf t))
  | .inl (.results l) => (some (.results (l.map conv)), none)
  | .inl _ => (none, none)

/-- the error the RIB call returns when the model's RIB says the call is fatal -/
def errOfOut (o : Rib.Out) : Option Status := if o.fatal then some ⟨.Unknown, .none⟩ else none

/-- what `modifyEntry` reports of a RIB call is what the model's `modifyOne` makes of the same output -/
theorem ribOutcome_out (fib : Bool) (o : Rib.Out) (eff : Eff) :
    let me := ribOutcome fib (o.oks.map (·.id)) o.fails (errOfOut o) eff
    (me.1, me.2.1) =
      outOf (if o.fatal then .inr ⟨.unimplemented, .unknown⟩ else .inl (.results (Server.resultsOf fib o))) := by
  rw [resultsOf_ids, errOfOut]
  cases o.fatal <;> rfl

/-- **`modifyEntry` against the model's RIB = the model's `modifyOne`.** The RIB oracles of the
generated `modifyEntry` are what the model's `Rib.add` / `Rib.del` return for this operation (only
the one for the operation's type is read); its response and error are the model's. -/
theorem modifyEntry_modifyOne (c : Nat) (snap : Server.ElecSnap) (ed : ElectionDetails) (h : SnapRel c snap ed)
    (r : Rib) (op : Op) (script : List Rib.CEv) (fib : Bool) (niR : Option Unit)
    (ra : Rib) (oa : Rib.Out) (hadd : (op.ty = .add ∨ op.ty = .replace) → r.add op script = some (ra, oa))
    (hscript : ¬ (op.ty = .add ∨ op.ty = .replace) → script = [])
    (hgate : Server.gate c op.elec snap ≠ .proceed → script = []) :
    ∃ r' o m, Server.modifyOne r c fib snap op script = some (r', o, m) ∧
      let me := Gen.modifyEntry (some ()) op.ni (some (gopNI op)) fib (some ed) niR true true
        ((oa.oks.map (·.id)).map OpResult.mk) (oa.fails.map OpResult.mk) (errOfOut oa)
        (((r.del op).2.oks.map (·.id)).map OpResult.mk) ((r.del op).2.fails.map OpResult.mk) (errOfOut (r.del op).2)
      (me.1, me.2.1) = outOf m := by
  rw [gen_modifyEntry_of c snap ed h op (gopNI op) rfl rfl rfl]
  unfold Server.modifyOne
  cases hg : Server.gate c op.elec snap with
  | fatal t => rw [hgate (by simp [hg])]; exact ⟨_, _, _, rfl, rfl⟩
  | failed => rw [hgate (by simp [hg])]; exact ⟨_, _, _, rfl, rfl⟩
  | proceed =>
    cases hty : op.ty with
    | invalid => rw [hscript (by simp [hty])]; exact ⟨_, _, _, rfl, rfl⟩
    | delete =>
      rw [hscript (by simp [hty])]
      -- `modifyOne` builds its result inside its test for a fatal output: `some (r', ro, ·)` moves out of the `if`
      exact ⟨_, _, _, (apply_ite (fun m => some ((r.del op).1, (r.del op).2, m)) _ _ _).symm, ribOutcome_out fib _ _⟩
    | add | replace =>
      rw [hadd (by simp [hty])]
      exact ⟨ra, oa, _, (apply_ite (fun m => some (ra, oa, m)) _ _ _).symm, ribOutcome_out fib oa _⟩

/-- **One operation, end to end**: `doModify` for a one-operation message of a session that has
negotiated SINGLE_PRIMARY / PRESERVE, with `modifyEntry`'s answer `me`: the instance is checked
first (empty or unknown: FAILED in-band and `modifyEntry` is not called), else `modifyEntry` is
called once with the session's acknowledgement mode and the message's election record, and its
response is written, or its error ends the RPC -/
theorem compose_one_op (nm : Nat → String) (s : Server) (c : Nat) (x : Sess)
    (hx : x.params.expectElec = true ∧ x.params.persist = true) (op : Op) (me : Option MResp × Option Status) :
    Gen.doModify (nm c) [gopNI op] (some (gsess x)) true
        { master := masterStr nm s.curMaster, ID := s.curElec, client := "", clientLatest := none }
        (fun n => s.rib.hasNI n) (fun _ => me.1) (fun _ => me.2) =
      if op.ni = "" ∨ s.rib.hasNI op.ni = false then [Eff.send (some (.results [(op.id, .FAILED)]))]
      else
        let call := Eff.modifyEntry op.ni (some (gopNI op)) x.params.fibAck
          (some (recordOf (nm c) (gsess x) { master := masterStr nm s.curMaster, ID := s.curElec, client := "", clientLatest := none }))
        match me.2 with
        | some e => [call, Eff.sendErr (some e)]
        | none => [call, Eff.send me.1] := by
  -- the session has negotiated, so the loop runs; on one operation `modLoop` computes to the right side
  rw [gen_doModify]
  exact (if_pos (c := (gsess x).params.ExpectElecID = true ∧ (gsess x).params.Persist = true) hx).trans rfl

end Gribi.GenEquiv
