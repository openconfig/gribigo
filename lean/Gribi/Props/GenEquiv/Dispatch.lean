/-
One iteration of the receive loop of `Server.Modify` (server/server.go).
-/
import Gribi.Gen.ModifyDispatch
import Gribi.Props.GenEquiv.Base
namespace Gribi.GenEquiv
open Gribi Gribi.Gen

/-- The receive loop of `Server.Modify`, for every combination of the
three fields of a ModifyRequest, every value of the first-message flag and every outcome of the
handlers it calls:
* more than one of parameters / election id / operations populated: the RPC ends with
  InvalidArgument and **no handler is called** (the model's `.multi`);
* no field populated: Unimplemented, no handler called (the model's `.empty`);
* parameters only: `checkParams` is called with the current first-message flag, then
  `updateParams`; the first error ends the RPC; otherwise the response is written;
* election id only: `runElection`; its error ends the RPC, otherwise the response is written;
* operations only: `doModify`, nothing written by the loop itself;
and the first-message flag is set after every message that did not end the RPC. -/
theorem gen_dispatch (cid : String) (p : Option SessionParameters) (e : Option U128) (o : Option Unit)
    (gotmsg : Bool) (cpRes elRes : Option MResp) (cpErr upErr elErr : Option Status) :
    Gen.modifyDispatch cid (some ⟨p, e, o⟩) gotmsg cpRes cpErr upErr elRes elErr =
      match p, e, o with
      | none, none, none => .term (some ⟨.Unimplemented, .none⟩) []
      | some _, none, none =>
        (match cpErr with
         | some x => .term (some x) [.checkParams cid p gotmsg]
         | none =>
           match upErr with
           | some x => .term (some x) [.checkParams cid p gotmsg, .updateParams cid p]
           | none => .cont true [.checkParams cid p gotmsg, .updateParams cid p, .send cpRes])
      | none, some _, none =>
        (match elErr with
         | some x => .term (some x) [.runElection cid e]
         | none => .cont true [.runElection cid e, .send elRes])
      | none, none, some _ => .cont true [.doModify cid]
      | _, _, _ => .term (some ⟨.InvalidArgument, .none⟩) [] := by
  -- the errors are looked at only where one field alone is populated
  cases p <;> cases e <;> cases o
  case none.some.none => cases elErr <;> rfl
  case some.none.none => cases cpErr <;> cases upErr <;> rfl
  all_goals rfl

/-- the two statuses are the ones the model gives to `.multi` and `.empty` -/
theorem gen_dispatch_model (s : Server) (c : Nat) (cs : Sess) (h : s.sess.get? c = some cs) :
    ((s.recv c .multi).map (fun r => r.2.term.map statusOf)) = some (some ⟨.InvalidArgument, .none⟩) ∧
    ((s.recv c .empty).map (fun r => r.2.term.map statusOf)) = some (some ⟨.Unimplemented, .none⟩) := by
  simp only [Server.recv, h]; exact ⟨rfl, rfl⟩

theorem gen_dispatch_translated : Gen.modifyDispatch_problem = none := rfl

end Gribi.GenEquiv
