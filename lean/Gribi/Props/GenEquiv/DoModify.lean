/-
`Server.doModify` (one operations message of a Modify stream). Responses written to the stream
(`resCh <- r`), the error that ends the RPC (`errCh <- e`) and the calls of `modifyEntry` are
recorded, in order, as effects.
-/
import Gribi.Gen.DoModify
import Gribi.Props.GenEquiv.Election
import Gribi.Props.GenEquiv.Gate
namespace Gribi.GenEquiv
open Gribi Gribi.Gen

/-- the election record `doModify` hands to `modifyEntry` for every operation of the message -/
def recordOf (cid : String) (cs : ClientState) (elec : ElectionDetails) : ElectionDetails :=
  { elec with client := cid, clientLatest := cs.lastElecID }

def modLoop (cid : String) (cs : ClientState) (elec : ElectionDetails) (niKnown : String → Bool)
    (meRes : Option AFTOperation → Option MResp) (meErr : Option AFTOperation → Option Status) :
    List AFTOperation → List Eff
  | [] => []
  | o :: rest =>
    if o.NetworkInstance = "" ∨ niKnown o.NetworkInstance = false then
      Eff.send (some (.results [(o.Id, .FAILED)])) :: modLoop cid cs elec niKnown meRes meErr rest
    else
      let call := Eff.modifyEntry o.NetworkInstance (some o) cs.params.FIBAck (some (recordOf cid cs elec))
      match meErr (some o) with
      | some e => [call, Eff.sendErr (some e)]            -- the error ends the RPC: nothing after it
      | none => call :: Eff.send (meRes (some o)) :: modLoop cid cs elec niKnown meRes meErr rest

theorem doModify_loop_spec (cid : String) (cs : ClientState) (elec : ElectionDetails) (k : String → Bool)
    (meRes : Option AFTOperation → Option MResp) (meErr : Option AFTOperation → Option Status) :
    ∀ (l : List AFTOperation) (e : List Eff),
      doModify.loop1 elec k meRes meErr cs cid l e = e ++ modLoop cid cs elec k meRes meErr l := by
  intro l
  induction l with
  | nil => intro e; simp [doModify.loop1, modLoop]
  | cons o rest ih =>
    intro e
    unfold doModify.loop1
    by_cases h1 : o.NetworkInstance = ""
    · simp [h1, ih, modLoop]
    · by_cases h2 : k o.NetworkInstance = true
      · cases hm : meErr (some o) with
        | none => simp [h1, h2, hm, ih, modLoop, recordOf]
        | some x => simp [h1, h2, hm, modLoop, recordOf]
      · simp [h1, h2, ih, modLoop]

/-- `Server.doModify`, for every message, session state, election state
and every behaviour of `modifyEntry`: an unknown session ends the RPC with Internal; a session that
has not negotiated SINGLE_PRIMARY with PRESERVE ends it with Unimplemented / UNSUPPORTED_PARAMS
before any operation is looked at; otherwise the election record is taken **once** for the
message (the server's primary and id, this session's last announced id) and each operation in
turn is answered FAILED in-band when its instance is empty or unknown (without a call of
`modifyEntry`), or handed to `modifyEntry` with that record and the session's acknowledgement
mode; a fatal error of `modifyEntry` ends the RPC and **no later operation of the message is
processed**; its response is written otherwise. -/
theorem gen_doModify (cid : String) (ops : List AFTOperation) (cs : Option ClientState) (csOk : Bool)
    (elec : ElectionDetails) (k : String → Bool)
    (meRes : Option AFTOperation → Option MResp) (meErr : Option AFTOperation → Option Status) :
    Gen.doModify cid ops cs csOk elec k meRes meErr =
      match cs with
      | none => [Eff.sendErr (some ⟨.Internal, .none⟩)]
      | some c =>
        if c.params.ExpectElecID = true ∧ c.params.Persist = true then modLoop cid c elec k meRes meErr ops
        else [Eff.sendErr (some ⟨.Unimplemented, .modify .UNSUPPORTED_PARAMS⟩)] := by
  cases cs with
  | none => rfl
  | some c =>
    simp only [Gen.doModify, doModify_loop_spec, List.nil_append]
    cases c.params.ExpectElecID <;> cases c.params.Persist <;> rfl

/-- the record handed to `modifyEntry` is the model's election snapshot of the message: with the
server's register as `getElection` returns it, this session as the client and its last announced
id, `SnapRel` (the hypothesis of `gen_gate` / `gen_modifyEntry`) holds. -/
theorem record_snapRel (nm : Nat → String) (hn : Naming nm) (s : Server) (c : Nat) (cs : Sess) :
    SnapRel c { master := s.curMaster, cur := s.curElec, clientLatest := cs.lastElec }
      (recordOf (nm c) (gsess cs) { master := masterStr nm s.curMaster, ID := s.curElec, client := "", clientLatest := none }) := by
  obtain ⟨_, _, _, master⟩ := s
  refine ⟨rfl, rfl, ?_, fun m hm => ?_⟩
  · cases master with
    | none => exact ⟨fun _ => rfl, fun _ => rfl⟩
    | some m => exact ⟨nofun, fun h => absurd h (hn.ne m)⟩
  · cases hm; exact ⟨congrArg nm, hn.inj _ _⟩

/-- the model's `doOps` rejects an un-negotiated session with the same status -/
theorem gen_doModify_model (s : Server) (c : Nat) (cs : Sess) (l : List (Op × List Rib.CEv))
    (h : cs.params.expectElec = false ∨ cs.params.persist = false) (hl : l.all (fun e => e.2 == []) = true) :
    (Server.doOps s c cs l).map (fun r => r.2.term.map statusOf) =
      some (some ⟨.Unimplemented, .modify .UNSUPPORTED_PARAMS⟩) := by
  have hc : (!cs.params.expectElec || !cs.params.persist) = true := by rcases h with h | h <;> simp [h]
  simp only [Server.doOps, hc, hl, if_true]
  rfl

theorem gen_doModify_translated : Gen.doModify_problem = none := rfl

end Gribi.GenEquiv
