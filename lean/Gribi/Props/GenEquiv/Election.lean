/-
`Server.runElection` (server/server.go) against the model's `Server.doElec`, and how the model's
numbered sessions are named in the code (`Naming`).
-/
import Gribi.Gen.RunElection
import Gribi.Props.GenEquiv.IsNewMaster
import Gribi.Props.GenEquiv.Params
namespace Gribi.GenEquiv
open Gribi Gribi.Gen

/-- session names as the Go code has them: distinct non-empty strings -/
structure Naming (nm : Nat → String) : Prop where
  inj : ∀ a b, nm a = nm b → a = b
  ne : ∀ a, nm a ≠ ""

def masterStr (nm : Nat → String) : Option Nat → String
  | none => ""
  | some m => nm m

def gsess (cs : Sess) : ClientState :=
  { params := gparams cs.params, setParams := cs.setParams, lastElecID := cs.lastElec }

/-- `Server.runElection` = the model's `doElec`: same rejection statuses, same response, same new
election id and primary, and the session's id is stored exactly when the announcement is not
rejected — for every id, session and election state. -/
theorem gen_runElection (nm : Nat → String) (s : Server) (c : Nat) (cs : Sess) (e : U128) (csErr : Status) :
    Gen.runElection (nm c) e (some (gsess cs)) csErr true s.curElec (masterStr nm s.curMaster) =
      let r := Server.doElec s c cs e
      match r.2.term with
      | some t => (none, some (statusOf t), s.curElec, masterStr nm s.curMaster, [])
      | none => (some (.elec r.1.curElec), none, r.1.curElec, masterStr nm r.1.curMaster,
                 [Eff.storeClientElectionID (nm c) (some e)]) := by
  -- the code's test against the zero id, written either way round, is the model's `isZero`
  simp only [Gen.runElection, Server.doElec, gsess, gparams, u128_eta, gen_isNewMaster, cmp_eq_zero,
    eq_comm (a := u128 0 0), ← isZero_iff]
  cases cs.params.expectElec
  · rfl
  · cases e.isZero
    · cases Server.isNewMaster e s.curElec <;> rfl
    · rfl

/-- an unknown session ends the RPC with the error of the lookup; nothing changes -/
theorem gen_runElection_unknown (id master : String) (e : U128) (csErr : Status) (stored : Bool) (cur : Option U128) :
    Gen.runElection id e none csErr stored cur master = (none, some csErr, cur, master, []) := rfl

theorem gen_runElection_translated : Gen.runElection_problem = none := rfl

end Gribi.GenEquiv
