/-
First occurrences. Go code that must visit each id once keeps a `seen` set and skips what is in it
(`handleNHGReferences` over a group's members, `Flush` over the backup groups); the translation
keeps `seen` as a list. `firsts seen l` is what such a loop visits: first occurrences, in order.
-/
namespace Gribi.GenEquiv.RibRef

def firsts : List Nat → List Nat → List Nat
  | _, [] => []
  | seen, n :: t => if seen.contains n then firsts seen t else n :: firsts (n :: seen) t

theorem mem_firsts (seen l : List Nat) (n : Nat) : n ∈ firsts seen l ↔ n ∈ l ∧ n ∉ seen := by
  fun_induction firsts seen l with
  | case1 => simp
  | case2 seen a t h ih =>
    have ha : a ∈ seen := by simpa using h
    rw [ih, List.mem_cons]
    exact ⟨fun ⟨h1, h2⟩ => ⟨.inr h1, h2⟩, fun ⟨h1, h2⟩ => ⟨h1.resolve_left fun e => h2 (e ▸ ha), h2⟩⟩
  | case3 seen a t h ih =>
    have ha : a ∉ seen := by simpa using h
    rw [List.mem_cons, ih, List.mem_cons, List.mem_cons]
    by_cases e : n = a
    · simp [e, ha]
    · simp [e]

theorem nodup_firsts (seen l : List Nat) : (firsts seen l).Nodup := by
  fun_induction firsts seen l with
  | case1 => exact .nil
  | case2 _ _ _ _ ih => exact ih
  | case3 seen a t _ ih =>
    exact List.nodup_cons.mpr ⟨fun h => ((mem_firsts ..).mp h).2 (List.mem_cons_self ..), ih⟩

end Gribi.GenEquiv.RibRef
