/-
`fluent.(*gRIBIModify).entriesToModifyRequest` (fluent/fluent.go: the function behind AddEntry /
ReplaceEntry / DeleteEntry).

An entry is represented by the AFTOperation its `OpProto()` returns; `Body` stands for everything
of that message the function never looks at (network instance, the entry itself).
-/
import Gribi.Gen.EntriesToModifyRequest
import Gribi.Props.C18
namespace Gribi.GenEquiv
open Gribi Gribi.Gen

/-- the client is in elected-primary mode (`redundMode == ElectedPrimaryClient`, which is 2) -/
def elected (conn : Option GRIBIConnection) : Bool :=
  match conn with
  | some c => c.redundMode == 2
  | none => false

/-- the election id an operation leaves with: its own if the entry specified one, else — in
elected-primary mode only — the client's current one -/
def stampSpec (conn : Option GRIBIConnection) (cur : Option U128) (e : AFTOperation) : Option U128 :=
  match e.ElectionId with
  | some x => some x
  | none => if elected conn then cur else none

/-- what the call must produce from the entries' own messages: ids count up from the counter,
the requested type, the stamp; everything else untouched -/
def modifySpec (ty : Nat) (conn : Option GRIBIConnection) (cur : Option U128) : Nat → List AFTOperation → List AFTOperation
  | _, [] => []
  | n, e :: rest => { e with Id := n + 1, Op := ty, ElectionId := stampSpec conn cur e } :: modifySpec ty conn cur (n + 1) rest

/-- one turn of the loop on an entry without explicit id: whichever of the four branches is taken,
the entry is appended with the next id, the requested type and the stamp of `stampSpec` -/
theorem loop_cons (ty : Nat) (conn : Option GRIBIConnection) (cur : Option U128) (e : AFTOperation) (h0 : e.Id = 0)
    (rest : List (Option AFTOperation)) (n : Nat) (m : ModifyRequestF) :
    Gen.entriesToModifyRequest.loop1 ty (some ()) conn cur (some e :: rest) n m =
      Gen.entriesToModifyRequest.loop1 ty (some ()) conn cur rest (n + 1)
        { Operation := m.Operation ++ [{ e with Id := n + 1, Op := ty, ElectionId := stampSpec conn cur e }] } := by
  simp only [Gen.entriesToModifyRequest.loop1, h0, ne_eq, not_true_eq_false, if_false, stampSpec, elected]
  cases conn with
  | none => cases e.ElectionId <;> rfl
  | some c => by_cases hm : c.redundMode = 2 <;> cases e.ElectionId <;> simp [hm]

theorem loop_spec (ty : Nat) (conn : Option GRIBIConnection) (cur : Option U128) :
    ∀ (es : List AFTOperation) (n : Nat) (m : ModifyRequestF), (∀ e ∈ es, e.Id = 0) →
      Gen.entriesToModifyRequest.loop1 ty (some ()) conn cur (es.map some) n m =
        (some { Operation := m.Operation ++ modifySpec ty conn cur n es }, none, n + es.length) := by
  intro es
  induction es with
  | nil => intro n m _; simp [Gen.entriesToModifyRequest.loop1, modifySpec]
  | cons e rest ih =>
    intro n m h
    rw [List.map_cons, loop_cons _ _ _ _ (h e (List.mem_cons_self ..)), ih _ _ (fun x hx => h x (List.mem_cons_of_mem _ hx))]
    simp [modifySpec, Nat.add_assoc, Nat.add_comm 1]

/-- `entriesToModifyRequest`, for every list of entries whose messages carry no explicit id, every
operation type, client mode, current election id and counter: one ModifyRequest whose k-th
operation is the k-th entry's own message with id `counter + k`, the requested type and the stamp
of `stampSpec` — and nothing else changed; the counter advances by the number of entries. -/
theorem gen_fluent_modify (ty : Nat) (conn : Option GRIBIConnection) (cur : Option U128) (opErr : Status)
    (es : List AFTOperation) (n : Nat) (h : ∀ e ∈ es, e.Id = 0) :
    Gen.entriesToModifyRequest ty (es.map some) (some ()) conn cur opErr n =
      (some { Operation := modifySpec ty conn cur n es }, none, n + es.length) :=
  loop_spec ty conn cur es n _ h

/-- ids: distinct, strictly increasing, starting right after the counter -/
theorem modifySpec_ids (ty : Nat) (conn : Option GRIBIConnection) (cur : Option U128) :
    ∀ (es : List AFTOperation) (n : Nat), (modifySpec ty conn cur n es).map (·.Id) = (List.range es.length).map (fun k => n + k + 1) := by
  intro es
  induction es with
  | nil => intro n; simp [modifySpec]
  | cons e rest ih =>
    intro n
    simp only [modifySpec, List.map_cons, ih (n + 1), List.length_cons, List.range_succ_eq_map, List.map_map]
    simp [Function.comp_def, Nat.add_assoc, Nat.add_comm 1]

theorem modifySpec_fields (ty : Nat) (conn : Option GRIBIConnection) (cur : Option U128) :
    ∀ (es : List AFTOperation) (n : Nat),
      (modifySpec ty conn cur n es).map (fun o => (o.Op, o.ElectionId, o.Body)) =
        es.map (fun e => (ty, stampSpec conn cur e, e.Body)) := by
  intro es
  induction es with
  | nil => intro n; simp [modifySpec]
  | cons e rest ih => intro n; simp [modifySpec, ih (n + 1)]

/-- an entry whose `OpProto()` fails, or that carries an explicit id, makes the call fail -/
theorem gen_fluent_modify_rejects (ty : Nat) (conn : Option GRIBIConnection) (cur : Option U128) (opErr : Status)
    (e : AFTOperation) (rest : List (Option AFTOperation)) (n : Nat) (h : e.Id ≠ 0) :
    (Gen.entriesToModifyRequest ty (some e :: rest) (some ()) conn cur opErr n).2.1 ≠ none ∧
    (Gen.entriesToModifyRequest ty (none :: rest) (some ()) conn cur opErr n).2.1 ≠ none := by
  have := Ne.symm h  -- the code's test of the id, whichever way round it is written
  simp [*, Gen.entriesToModifyRequest, Gen.entriesToModifyRequest.loop1]

/-- the stamp the code computes is the model's `stampOf` (the hand-written fluent model that the
C18 theorems and the fluent correspondence are about) -/
theorem stamp_agrees (conv : Nat × Nat → U128) (c : Fluent.Client) (e : Fluent.Entry) (conn : Option GRIBIConnection)
    (cur : Option U128) (op : AFTOperation)
    (hm : elected conn = c.elected) (hc : cur = c.curElec.map conv) (he : op.ElectionId = e.elec.map conv) :
    stampSpec conn cur op = (Fluent.stampOf c e).map conv := by
  unfold stampSpec Fluent.stampOf
  rw [he, hm, hc]
  cases e.elec <;> cases c.elected <;> simp

/-- the counter of the model advances as the code's does -/
theorem count_agrees (c : Fluent.Client) (ty : Nat) : ∀ (es : List Fluent.Entry) (c : Fluent.Client),
    (c.modify ty es).1.opCount = c.opCount + es.length :=
  fun es c => (C18.modify_count c ty es).1

theorem gen_fluent_translated : Gen.entriesToModifyRequest_problem = none := rfl

end Gribi.GenEquiv
