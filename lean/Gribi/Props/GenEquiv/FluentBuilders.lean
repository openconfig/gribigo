/-
The fluent builders (`fluent/fluent.go`): the constructors, the `With…`/`Add…` methods, `OpProto`
and `EntryProto` of `ipv4Entry`, `ipv6Entry`, `labelEntry`, `nextHopGroupEntry` and `nextHopEntry`
(of the last, not `WithPushedLabelStack` and `AddEncapHeader`), the tables `aftMap` and `encapMap`,
and the setters of the Get and Flush request builders.

A builder is its state: the protobuf under construction, the network instance, the explicit
election id. The generated functions act on that state; the abstraction maps it to the model's
builder record (`Gribi.Fluent.TopB`, `NhgB`) or, for the label and next-hop builders, to an
observation (`LabelObs`, `NhObs`) that the model's `LabelB` / `NhB` is mapped to as well. Proved,
for every state and every argument:

* each generated setter acts on the abstraction as the model's `apply` of the corresponding call
  (so a chain of calls is the model's fold of them: `gen_*_chain`);
* `OpProto` / `EntryProto` return a message that decodes to exactly the abstraction of the
  state (network instance, entry kind, every field, the election id — which `EntryProto`
  leaves out) and leave the state as it is;
* "exactly what was set": in the message a chain of calls ends in, a field carries the argument
  of the last call that sets it, and is absent when no call of the chain sets it
  (`fold_last`, `fold_frame` and their instances).

What the translator itself checks while generating: the builder's protobuf pointer is handed
out only as `proto.Clone` of it, and the methods return their receiver.
-/
import Gribi.Gen.Fl4WithPrefix
import Gribi.Gen.Fl4WithNetworkInstance
import Gribi.Gen.Fl4WithNextHopGroup
import Gribi.Gen.Fl4WithNextHopGroupNetworkInstance
import Gribi.Gen.Fl4WithMetadata
import Gribi.Gen.Fl4WithElectionID
import Gribi.Gen.Fl4OpProto
import Gribi.Gen.Fl4EntryProto
import Gribi.Gen.Fl6WithPrefix
import Gribi.Gen.Fl6WithNetworkInstance
import Gribi.Gen.Fl6WithNextHopGroup
import Gribi.Gen.Fl6WithNextHopGroupNetworkInstance
import Gribi.Gen.Fl6WithMetadata
import Gribi.Gen.Fl6WithElectionID
import Gribi.Gen.Fl6OpProto
import Gribi.Gen.Fl6EntryProto
import Gribi.Gen.FlLWithLabel
import Gribi.Gen.FlLWithNetworkInstance
import Gribi.Gen.FlLWithNextHopGroup
import Gribi.Gen.FlLWithNextHopGroupNetworkInstance
import Gribi.Gen.FlLWithPoppedLabelStack
import Gribi.Gen.FlLOpProto
import Gribi.Gen.FlLEntryProto
import Gribi.Gen.FlGWithID
import Gribi.Gen.FlGWithNetworkInstance
import Gribi.Gen.FlGWithBackupNHG
import Gribi.Gen.FlGAddNextHop
import Gribi.Gen.FlGWithElectionID
import Gribi.Gen.FlGOpProto
import Gribi.Gen.FlGEntryProto
import Gribi.Gen.FlNewIPv4Entry
import Gribi.Gen.FlNewIPv6Entry
import Gribi.Gen.FlNewLabelEntry
import Gribi.Gen.FlNewNextHopGroupEntry
import Gribi.Gen.FlNewNextHopEntry
import Gribi.Gen.FlNWithIndex
import Gribi.Gen.FlNWithNetworkInstance
import Gribi.Gen.FlNWithIPAddress
import Gribi.Gen.FlNWithInterfaceRef
import Gribi.Gen.FlNWithSubinterfaceRef
import Gribi.Gen.FlNWithMacAddress
import Gribi.Gen.FlNWithIPinIP
import Gribi.Gen.FlNWithNextHopNetworkInstance
import Gribi.Gen.FlNWithPopTopLabel
import Gribi.Gen.FlNWithDecapsulateHeader
import Gribi.Gen.FlNWithEncapsulateHeader
import Gribi.Gen.FlNWithElectionID
import Gribi.Gen.FlNOpProto
import Gribi.Gen.FlNEntryProto
import Gribi.Gen.FlNewGet
import Gribi.Gen.FlNewFlush
import Gribi.Gen.FlGetAllNetworkInstances
import Gribi.Gen.FlGetWithNetworkInstance
import Gribi.Gen.FlGetWithAFT
import Gribi.Gen.FlFlushWithElectionID
import Gribi.Gen.FlFlushWithElectionOverride
import Gribi.Gen.FlFlushWithNetworkInstance
import Gribi.Gen.FlFlushWithAllNetworkInstances
import Gribi.Model.Fluent
import Gribi.Props.GenEquiv.Loop
namespace Gribi.GenEquiv
open Gribi Gribi.Gen Gribi.Fluent

theorem fold_frame {σ κ α : Type} (ap : σ → κ → σ) (obs : σ → α) (cs : List κ) (s : σ)
    (h : ∀ c ∈ cs, ∀ t, obs (ap t c) = obs t) : obs (cs.foldl ap s) = obs s :=
  List.foldlRecOn cs ap (motive := fun t => obs t = obs s) rfl fun t ht c hc => (h c hc t).trans ht

theorem fold_last {σ κ α : Type} (ap : σ → κ → σ) (obs : σ → α) (pre : List κ) (c0 : κ) (rest : List κ)
    (s : σ) (v : α) (hset : ∀ t, obs (ap t c0) = v) (h : ∀ c ∈ rest, ∀ t, obs (ap t c) = obs t) :
    obs ((pre ++ c0 :: rest).foldl ap s) = v := by
  rw [List.foldl_append, List.foldl_cons, fold_frame ap obs rest _ h, hset]

/-- core's `List.foldl_hom` in the form the chains below have: the model's calls are the code's calls
mapped by `m` -/
theorem foldl_hom {σ τ κ ι : Type} (f : σ → τ) {run : σ → κ → σ} {ap : τ → ι → τ} {m : κ → ι}
    (step : ∀ s c, f (run s c) = ap (f s) (m c)) (cs : List κ) (s : σ) :
    f (cs.foldl run s) = (cs.map m).foldl ap (f s) := by
  rw [List.foldl_map]; exact (List.foldl_hom f fun s c => (step s c).symm).symm

/-- the explicit election id as the model holds it -/
def elecOf (e : Option U128) : Option (Nat × Nat) := e.map (fun u => (u.lo.toNat, u.hi.toNat))

def absTopEntry (pfx ni : String) (t : TopEntryB) (e : Option U128) : TopB :=
  { pfx := pfx, ni := ni, nhg := t.NextHopGroup.map (·.Value),
    nhgNI := t.NextHopGroupNetworkInstance.map (·.Value),
    metadata := t.EntryMetadata.map (·.Value), elec := elecOf e }

abbrev St4 := Ipv4KeyB × String × Option U128
abbrev St6 := Ipv6KeyB × String × Option U128

def abs4 (s : St4) : TopB := absTopEntry s.1.Prefix s.2.1 s.1.Ipv4Entry s.2.2
def abs6 (s : St6) : TopB := absTopEntry s.1.Prefix s.2.1 s.1.Ipv6Entry s.2.2

/-- what `IPv4Entry()` / `IPv6Entry()` allocate -/
def init4 : St4 := ({ Prefix := "", Ipv4Entry := { NextHopGroup := none, NextHopGroupNetworkInstance := none, EntryMetadata := none } }, "", none)
def init6 : St6 := ({ Prefix := "", Ipv6Entry := { NextHopGroup := none, NextHopGroupNetworkInstance := none, EntryMetadata := none } }, "", none)

theorem abs4_init : abs4 init4 = {} := rfl
theorem abs6_init : abs6 init6 = {} := rfl

/-- a call on the code's builder (the election id words are `uint64`) -/
inductive GTopCall where
  | prefix_ (p : String) | ni (n : String) | nhg (g : Nat) | nhgNI (n : String)
  | metadata (b : String) | elec (lo hi : UInt64)
  deriving DecidableEq, Repr

def GTopCall.toModel : GTopCall → TopCall
  | .prefix_ p => .prefix_ p | .ni n => .ni n | .nhg g => .nhg g | .nhgNI n => .nhgNI n
  | .metadata b => .metadata b | .elec lo hi => .elec lo.toNat hi.toNat

def run4 (s : St4) : GTopCall → St4
  | .prefix_ p => fl4WithPrefix p s.1 s.2.1 s.2.2
  | .ni n => fl4WithNetworkInstance n s.1 s.2.1 s.2.2
  | .nhg g => fl4WithNextHopGroup g s.1 s.2.1 s.2.2
  | .nhgNI n => fl4WithNextHopGroupNetworkInstance n s.1 s.2.1 s.2.2
  | .metadata b => fl4WithMetadata b s.1 s.2.1 s.2.2
  | .elec lo hi => fl4WithElectionID lo hi s.1 s.2.1 s.2.2

def run6 (s : St6) : GTopCall → St6
  | .prefix_ p => fl6WithPrefix p s.1 s.2.1 s.2.2
  | .ni n => fl6WithNetworkInstance n s.1 s.2.1 s.2.2
  | .nhg g => fl6WithNextHopGroup g s.1 s.2.1 s.2.2
  | .nhgNI n => fl6WithNextHopGroupNetworkInstance n s.1 s.2.1 s.2.2
  | .metadata b => fl6WithMetadata b s.1 s.2.1 s.2.2
  | .elec lo hi => fl6WithElectionID lo hi s.1 s.2.1 s.2.2

theorem gen_top4_step (s : St4) (c : GTopCall) : abs4 (run4 s c) = (abs4 s).apply c.toModel := by
  cases c <;> rfl

theorem gen_top6_step (s : St6) (c : GTopCall) : abs6 (run6 s c) = (abs6 s).apply c.toModel := by
  cases c <;> rfl

theorem gen_top4_chain (cs : List GTopCall) (s : St4) :
    abs4 (cs.foldl run4 s) = (cs.map GTopCall.toModel).foldl TopB.apply (abs4 s) :=
  foldl_hom abs4 gen_top4_step cs s

theorem gen_top6_chain (cs : List GTopCall) (s : St6) :
    abs6 (cs.foldl run6 s) = (cs.map GTopCall.toModel).foldl TopB.apply (abs6 s) :=
  foldl_hom abs6 gen_top6_step cs s

def decodeEntry (ni : String) (e : Option U128) : Option EntryB → Option Entry
  | some (.Ipv4 (some k)) => some (.v4 (absTopEntry k.Prefix ni k.Ipv4Entry e))
  | some (.Ipv6 (some k)) => some (.v6 (absTopEntry k.Prefix ni k.Ipv6Entry e))
  | some (.Mpls (some k)) =>
    some (.label { label := k.Label.map (fun | .U64 l => l), ni := ni,
                   nhg := k.LabelEntry.NextHopGroup.map (·.Value),
                   nhgNI := k.LabelEntry.NextHopGroupNetworkInstance.map (·.Value),
                   popped := some (k.LabelEntry.PoppedMplsLabelStack.map (·.PoppedMplsLabelStackUint64)),
                   elec := elecOf e })
  | some (.NextHopGroup (some k)) =>
    some (.nhg { id := k.Id, ni := ni, backup := k.NextHopGroup.BackupNextHopGroup.map (·.Value),
                 nhs := k.NextHopGroup.NextHop.map (fun m => (m.Index, ((m.NextHop.bind (·.Weight)).map (·.Value)).getD 0)),
                 elec := elecOf e })
  | _ => none

def decodeOp (o : Option AFTOperationB) : Option Entry := o.bind (fun m => decodeEntry m.NetworkInstance m.ElectionId m.Entry)
def decodeEnt (o : Option AFTEntryB) : Option Entry := o.bind (fun m => decodeEntry m.NetworkInstance none m.Entry)

def Entry.same : Entry → Entry → Prop
  | .v4 a, .v4 b => a = b
  | .v6 a, .v6 b => a = b
  | .label a, .label b => a = b
  | .nhg a, .nhg b => a = b
  | _, _ => False

/-- `OpProto` of the IPv4 builder: the message is the builder's state, entry kind IPv4, with its
election id; no error; the builder is unchanged -/
theorem gen_top4_opProto (s : St4) :
    decodeOp (fl4OpProto s.1 s.2.1 s.2.2).1 = some (.v4 (abs4 s)) ∧
    (fl4OpProto s.1 s.2.1 s.2.2).2.1 = none ∧ (fl4OpProto s.1 s.2.1 s.2.2).2.2 = s :=
  ⟨rfl, rfl, rfl⟩

/-- `EntryProto`: the same without the election id -/
theorem gen_top4_entryProto (s : St4) :
    decodeEnt (fl4EntryProto s.1 s.2.1 s.2.2).1 = some (.v4 { abs4 s with elec := none }) ∧
    (fl4EntryProto s.1 s.2.1 s.2.2).2.1 = none ∧ (fl4EntryProto s.1 s.2.1 s.2.2).2.2 = s :=
  ⟨rfl, rfl, rfl⟩

theorem gen_top6_opProto (s : St6) :
    decodeOp (fl6OpProto s.1 s.2.1 s.2.2).1 = some (.v6 (abs6 s)) ∧
    (fl6OpProto s.1 s.2.1 s.2.2).2.1 = none ∧ (fl6OpProto s.1 s.2.1 s.2.2).2.2 = s :=
  ⟨rfl, rfl, rfl⟩

theorem gen_top6_entryProto (s : St6) :
    decodeEnt (fl6EntryProto s.1 s.2.1 s.2.2).1 = some (.v6 { abs6 s with elec := none }) ∧
    (fl6EntryProto s.1 s.2.1 s.2.2).2.1 = none ∧ (fl6EntryProto s.1 s.2.1 s.2.2).2.2 = s :=
  ⟨rfl, rfl, rfl⟩

/-- the whole chain, from the constructor to the message: the operation an IPv4 builder emits
after any chain of calls is the model's builder after the same calls -/
theorem gen_top4_emits (cs : List GTopCall) :
    decodeOp (fl4OpProto (cs.foldl run4 init4).1 (cs.foldl run4 init4).2.1 (cs.foldl run4 init4).2.2).1 =
      some (.v4 ((cs.map GTopCall.toModel).foldl TopB.apply {})) := by
  rw [(gen_top4_opProto _).1, gen_top4_chain, abs4_init]

theorem gen_top6_emits (cs : List GTopCall) :
    decodeOp (fl6OpProto (cs.foldl run6 init6).1 (cs.foldl run6 init6).2.1 (cs.foldl run6 init6).2.2).1 =
      some (.v6 ((cs.map GTopCall.toModel).foldl TopB.apply {})) := by
  rw [(gen_top6_opProto _).1, gen_top6_chain, abs6_init]

/-- which field of the entry a call sets -/
def GTopCall.tag : GTopCall → Nat
  | .prefix_ _ => 0 | .ni _ => 1 | .nhg _ => 2 | .nhgNI _ => 3 | .metadata _ => 4 | .elec _ _ => 5

/-- a call of the model's builder leaves every field but the one it names -/
theorem top_frame (b : TopB) (c : GTopCall) :
    (c.tag ≠ 0 → (b.apply c.toModel).pfx = b.pfx) ∧ (c.tag ≠ 1 → (b.apply c.toModel).ni = b.ni) ∧
    (c.tag ≠ 2 → (b.apply c.toModel).nhg = b.nhg) ∧ (c.tag ≠ 3 → (b.apply c.toModel).nhgNI = b.nhgNI) ∧
    (c.tag ≠ 4 → (b.apply c.toModel).metadata = b.metadata) ∧ (c.tag ≠ 5 → (b.apply c.toModel).elec = b.elec) := by
  cases c <;> simp [GTopCall.tag, GTopCall.toModel, TopB.apply]

/-- C18's "exactly what was set" on the generated functions, the frame half: a call leaves every
field but the one it names -/
theorem gen_top4_frame (s : St4) (c : GTopCall) :
    (c.tag ≠ 0 → (abs4 (run4 s c)).pfx = (abs4 s).pfx) ∧ (c.tag ≠ 1 → (abs4 (run4 s c)).ni = (abs4 s).ni) ∧
    (c.tag ≠ 2 → (abs4 (run4 s c)).nhg = (abs4 s).nhg) ∧ (c.tag ≠ 3 → (abs4 (run4 s c)).nhgNI = (abs4 s).nhgNI) ∧
    (c.tag ≠ 4 → (abs4 (run4 s c)).metadata = (abs4 s).metadata) ∧ (c.tag ≠ 5 → (abs4 (run4 s c)).elec = (abs4 s).elec) := by
  rw [gen_top4_step]; exact top_frame _ c

theorem gen_top6_frame (s : St6) (c : GTopCall) :
    (c.tag ≠ 0 → (abs6 (run6 s c)).pfx = (abs6 s).pfx) ∧ (c.tag ≠ 1 → (abs6 (run6 s c)).ni = (abs6 s).ni) ∧
    (c.tag ≠ 2 → (abs6 (run6 s c)).nhg = (abs6 s).nhg) ∧ (c.tag ≠ 3 → (abs6 (run6 s c)).nhgNI = (abs6 s).nhgNI) ∧
    (c.tag ≠ 4 → (abs6 (run6 s c)).metadata = (abs6 s).metadata) ∧ (c.tag ≠ 5 → (abs6 (run6 s c)).elec = (abs6 s).elec) := by
  rw [gen_top6_step]; exact top_frame _ c

/-- … the last-write half, for one field: the next-hop-group the emitted IPv4 operation carries is
the argument of the last `WithNextHopGroup` of the chain -/
theorem gen_top4_nhg_last (pre rest : List GTopCall) (g : Nat) (s : St4)
    (h : ∀ c ∈ rest, c.tag ≠ 2) :
    (abs4 ((pre ++ .nhg g :: rest).foldl run4 s)).nhg = some g :=
  fold_last run4 (fun t => (abs4 t).nhg) pre _ rest s _ (fun t => congrArg TopB.nhg (gen_top4_step t (.nhg g)))
    (fun c hc t => (gen_top4_frame t c).2.2.1 (h c hc))

/-- … and there is none when the chain has no such call -/
theorem gen_top4_nhg_unset (cs : List GTopCall) (h : ∀ c ∈ cs, c.tag ≠ 2) :
    (abs4 (cs.foldl run4 init4)).nhg = none :=
  fold_frame run4 (fun t => (abs4 t).nhg) cs init4 (fun c hc t => (gen_top4_frame t c).2.2.1 (h c hc))

abbrev StL := LabelKeyB × String × Option U128

/-- the code's label builder has no explicit election id method; `popped` is the list itself
(the protobuf does not tell an empty list from none) -/
structure LabelObs where
  label : Option Nat
  ni : String
  nhg : Option Nat
  nhgNI : Option String
  popped : List Nat
  deriving DecidableEq, Repr

def absL (s : StL) : LabelObs :=
  { label := s.1.Label.map (fun | .U64 l => l), ni := s.2.1,
    nhg := s.1.LabelEntry.NextHopGroup.map (·.Value),
    nhgNI := s.1.LabelEntry.NextHopGroupNetworkInstance.map (·.Value),
    popped := s.1.LabelEntry.PoppedMplsLabelStack.map (·.PoppedMplsLabelStackUint64) }

def obsOfLabelB (b : LabelB) : LabelObs :=
  { label := b.label, ni := b.ni, nhg := b.nhg, nhgNI := b.nhgNI, popped := b.popped.getD [] }

def initL : StL := ({ Label := none, LabelEntry := { NextHopGroup := none, NextHopGroupNetworkInstance := none, PoppedMplsLabelStack := [] } }, "", none)

inductive GLabelCall where
  | label (l : Nat) | ni (n : String) | nhg (g : Nat) | nhgNI (n : String) | popped (ls : List Nat)
  deriving DecidableEq, Repr

def GLabelCall.toModel : GLabelCall → LabelCall
  | .label l => .label l | .ni n => .ni n | .nhg g => .nhg g | .nhgNI n => .nhgNI n | .popped ls => .popped ls

def runL (s : StL) : GLabelCall → StL
  | .label l => flLWithLabel l s.1 s.2.1 s.2.2
  | .ni n => flLWithNetworkInstance n s.1 s.2.1 s.2.2
  | .nhg g => flLWithNextHopGroup g s.1 s.2.1 s.2.2
  | .nhgNI n => flLWithNextHopGroupNetworkInstance n s.1 s.2.1 s.2.2
  | .popped ls => flLWithPoppedLabelStack ls s.1 s.2.1 s.2.2

theorem popped_loop (ni : String) (e : Option U128) (ls : List Nat) (pb : LabelKeyB) :
    flLWithPoppedLabelStack.loop1 ni e ls pb =
      ({ pb with LabelEntry := { pb.LabelEntry with
          PoppedMplsLabelStack := pb.LabelEntry.PoppedMplsLabelStack ++ ls.map (fun l => ⟨l⟩) } }, ni, e) :=
  loop_snoc (loop := fun l a => flLWithPoppedLabelStack.loop1 ni e l
      { pb with LabelEntry := { pb.LabelEntry with PoppedMplsLabelStack := a } })
    (fun _ => rfl) (fun _ _ _ => rfl) ls pb.LabelEntry.PoppedMplsLabelStack

/-- `WithPoppedLabelStack(labels…)` replaces the stack by exactly the labels given, in order (it
empties the stack before its loop appends) -/
theorem gen_label_popped (ls : List Nat) (s : StL) :
    absL (runL s (.popped ls)) = { absL s with popped := ls } := by
  obtain ⟨pb, ni, e⟩ := s
  simp only [runL, flLWithPoppedLabelStack, popped_loop, absL]
  simp [List.map_map, Function.comp_def]

def LabelObs.apply (o : LabelObs) : GLabelCall → LabelObs
  | .label l => { o with label := some l }
  | .ni n => { o with ni := n }
  | .nhg g => { o with nhg := some g }
  | .nhgNI n => { o with nhgNI := some n }
  | .popped ls => { o with popped := ls }

theorem absL_run (s : StL) (c : GLabelCall) : absL (runL s c) = (absL s).apply c := by
  cases c with
  | popped ls => exact gen_label_popped ls s
  | _ => rfl

theorem gen_label_step (s : StL) (c : GLabelCall) (b : LabelB) (hb : absL s = obsOfLabelB b) :
    absL (runL s c) = obsOfLabelB (b.apply c.toModel) := by
  rw [absL_run, hb]; cases c <;> rfl

theorem gen_label_chain (cs : List GLabelCall) (s : StL) (b : LabelB) (hb : absL s = obsOfLabelB b) :
    absL (cs.foldl runL s) = obsOfLabelB ((cs.map GLabelCall.toModel).foldl LabelB.apply b) := by
  rw [List.foldl_map]
  exact List.foldl_rel (r := fun s b => absL s = obsOfLabelB b) hb fun c _ s b => gen_label_step s c b

theorem absL_init : absL initL = obsOfLabelB {} := rfl

/-- the election id of a label builder is never set: no method of it assigns one -/
theorem gen_label_elec (s : StL) (c : GLabelCall) : (runL s c).2.2 = s.2.2 := by
  obtain ⟨pb, ni, e⟩ := s
  cases c with
  | popped ls => simp [runL, flLWithPoppedLabelStack, popped_loop]
  | _ => rfl

/-- `OpProto` / `EntryProto` of the label builder: the message carries the builder's protobuf,
kind MPLS, its network instance, its election id; the builder is unchanged -/
theorem gen_label_opProto (s : StL) :
    (flLOpProto s.1 s.2.1 s.2.2).1 = some { NetworkInstance := s.2.1, Entry := some (.Mpls (some s.1)), ElectionId := s.2.2 } ∧
    (flLOpProto s.1 s.2.1 s.2.2).2.1 = none ∧ (flLOpProto s.1 s.2.1 s.2.2).2.2 = s :=
  ⟨rfl, rfl, rfl⟩

theorem gen_label_entryProto (s : StL) :
    (flLEntryProto s.1 s.2.1 s.2.2).1 = some { NetworkInstance := s.2.1, Entry := some (.Mpls (some s.1)) } ∧
    (flLEntryProto s.1 s.2.1 s.2.2).2.1 = none ∧ (flLEntryProto s.1 s.2.1 s.2.2).2.2 = s :=
  ⟨rfl, rfl, rfl⟩

abbrev StG := NhgKeyB × String × Option U128

def absG (s : StG) : NhgB :=
  { id := s.1.Id, ni := s.2.1, backup := s.1.NextHopGroup.BackupNextHopGroup.map (·.Value),
    nhs := s.1.NextHopGroup.NextHop.map (fun m => (m.Index, ((m.NextHop.bind (·.Weight)).map (·.Value)).getD 0)),
    elec := elecOf s.2.2 }

def initG : StG := ({ Id := 0, NextHopGroup := { BackupNextHopGroup := none, NextHop := [] } }, "", none)

theorem absG_init : absG initG = {} := rfl

inductive GNhgCall where
  | id (i : Nat) | ni (n : String) | backup (b : Nat) | addNh (idx w : Nat) | elec (lo hi : UInt64)
  deriving DecidableEq, Repr

def GNhgCall.toModel : GNhgCall → NhgCall
  | .id i => .id i | .ni n => .ni n | .backup b => .backup b | .addNh i w => .addNh i w
  | .elec lo hi => .elec lo.toNat hi.toNat

def runG (s : StG) : GNhgCall → StG
  | .id i => flGWithID i s.1 s.2.1 s.2.2
  | .ni n => flGWithNetworkInstance n s.1 s.2.1 s.2.2
  | .backup b => flGWithBackupNHG b s.1 s.2.1 s.2.2
  | .addNh i w => flGAddNextHop i w s.1 s.2.1 s.2.2
  | .elec lo hi => flGWithElectionID lo hi s.1 s.2.1 s.2.2

/-- `AddNextHop` appends one member with its weight, the others overwrite -/
theorem gen_nhg_step (s : StG) (c : GNhgCall) : absG (runG s c) = (absG s).apply c.toModel := by
  obtain ⟨pb, ni, e⟩ := s
  cases c with
  | addNh i w => simp [runG, flGAddNextHop, absG, GNhgCall.toModel, NhgB.apply]
  | _ => rfl

theorem gen_nhg_chain (cs : List GNhgCall) (s : StG) :
    absG (cs.foldl runG s) = (cs.map GNhgCall.toModel).foldl NhgB.apply (absG s) :=
  foldl_hom absG gen_nhg_step cs s

theorem gen_nhg_opProto (s : StG) :
    decodeOp (flGOpProto s.1 s.2.1 s.2.2).1 = some (.nhg (absG s)) ∧
    (flGOpProto s.1 s.2.1 s.2.2).2.1 = none ∧ (flGOpProto s.1 s.2.1 s.2.2).2.2 = s :=
  ⟨rfl, rfl, rfl⟩

theorem gen_nhg_entryProto (s : StG) :
    decodeEnt (flGEntryProto s.1 s.2.1 s.2.2).1 = some (.nhg { absG s with elec := none }) ∧
    (flGEntryProto s.1 s.2.1 s.2.2).2.1 = none ∧ (flGEntryProto s.1 s.2.1 s.2.2).2.2 = s :=
  ⟨rfl, rfl, rfl⟩

theorem gen_nhg_emits (cs : List GNhgCall) :
    decodeOp (flGOpProto (cs.foldl runG initG).1 (cs.foldl runG initG).2.1 (cs.foldl runG initG).2.2).1 =
      some (.nhg ((cs.map GNhgCall.toModel).foldl NhgB.apply {})) := by
  rw [(gen_nhg_opProto _).1, gen_nhg_chain, absG_init]

/-- every member the code's builder holds has a weight (so the decoding above loses nothing):
`AddNextHop` is the only method that touches the members and it always attaches one -/
def weighted (s : StG) : Prop := ∀ m ∈ s.1.NextHopGroup.NextHop, ∃ n w, m.NextHop = some n ∧ n.Weight = some w

theorem weighted_init : weighted initG := fun _ h => nomatch h

theorem gen_nhg_weighted (s : StG) (c : GNhgCall) (h : weighted s) : weighted (runG s c) := by
  obtain ⟨pb, ni, e⟩ := s
  cases c with
  | addNh i w =>
    intro m hm
    simp only [runG, flGAddNextHop, List.mem_append, List.mem_singleton] at hm
    rcases hm with hm | hm
    · exact h m hm
    · subst hm; exact ⟨_, _, rfl, rfl⟩
  | _ => exact h

/-! The next-hop builder (`nextHopEntry`). Translated: the constructor, `OpProto`, `EntryProto` and
every `With…` method except `WithPushedLabelStack` (its loop assigns through a pointer that nothing
in the loop's text says is non-nil); not `AddEncapHeader` (headers are values of an interface
type). The payload message is allocated by the first method that needs it. -/

abbrev StN := NhKeyB × String × Option U128

/-- what the translated methods can set, as the model's `NhB.render` sees it (the header choices
by their protobuf number, `hdrEnum`) -/
structure NhObs where
  index : Nat
  ni : String
  hasNh : Bool
  ip : Option String
  ifName : Option String
  subIf : Option Nat
  mac : Option String
  ipInIp : Option (String × String)
  nhNI : Option String
  popTop : Bool
  decapE : Nat
  encapE : Nat
  elec : Option (Nat × Nat)
  deriving DecidableEq, Repr

def absN (s : StN) : NhObs :=
  let nh := s.1.NextHop
  { index := s.1.Index, ni := s.2.1, hasNh := nh.isSome,
    ip := (nh.bind (·.IpAddress)).map (·.Value),
    ifName := ((nh.bind (·.InterfaceRef)).bind (·.Interface)).map (·.Value),
    subIf := ((nh.bind (·.InterfaceRef)).bind (·.Subinterface)).map (·.Value),
    mac := (nh.bind (·.MacAddress)).map (·.Value),
    ipInIp := (nh.bind (·.IpInIp)).map (fun x => ((x.SrcIp.map (·.Value)).getD "", (x.DstIp.map (·.Value)).getD "")),
    nhNI := (nh.bind (·.NetworkInstance)).map (·.Value),
    popTop := ((nh.bind (·.PopTopLabel)).map (·.Value)).getD false,
    decapE := (nh.map (·.DecapsulateHeader)).getD 0,
    encapE := (nh.map (·.EncapsulateHeader)).getD 0,
    elec := elecOf s.2.2 }

def obsOfNhB (b : NhB) : NhObs :=
  { index := b.index, ni := b.ni, hasNh := b.hasNh, ip := b.ip, ifName := b.ifName, subIf := b.subIf, mac := b.mac,
    ipInIp := b.ipInIp, nhNI := b.nhNI, popTop := b.popTop, decapE := hdrEnum b.decap, encapE := hdrEnum b.encap,
    elec := b.elec }

def initN : StN := ({ Index := 0, NextHop := none }, "", none)

theorem absN_init : absN initN = obsOfNhB {} := rfl

inductive GNhCall where
  | index (i : Nat) | ni (n : String) | ip (a : String) | ifRef (n : String) | subIfRef (n : String) (s : Nat)
  | mac (m : String) | ipInIp (src dst : String) | nhNI (n : String) | popTop
  | decap (h : Int) | encap (h : Int) | elec (lo hi : UInt64)
  deriving DecidableEq, Repr

def GNhCall.toModel : GNhCall → NhCall
  | .index i => .index i | .ni n => .ni n | .ip a => .ip a | .ifRef n => .ifRef n | .subIfRef n s => .subIfRef n s
  | .mac m => .mac m | .ipInIp s d => .ipInIp s d | .nhNI n => .nhNI n | .popTop => .popTop
  | .decap h => .decap h.toNat | .encap h => .encap h.toNat | .elec lo hi => .elec lo.toNat hi.toNat

def runN (s : StN) : GNhCall → StN
  | .index i => flNWithIndex i s.1 s.2.1 s.2.2
  | .ni n => flNWithNetworkInstance n s.1 s.2.1 s.2.2
  | .ip a => flNWithIPAddress a s.1 s.2.1 s.2.2
  | .ifRef n => flNWithInterfaceRef n s.1 s.2.1 s.2.2
  | .subIfRef n k => flNWithSubinterfaceRef n k s.1 s.2.1 s.2.2
  | .mac m => flNWithMacAddress m s.1 s.2.1 s.2.2
  | .ipInIp a b => flNWithIPinIP a b s.1 s.2.1 s.2.2
  | .nhNI n => flNWithNextHopNetworkInstance n s.1 s.2.1 s.2.2
  | .popTop => flNWithPopTopLabel s.1 s.2.1 s.2.2
  | .decap h => flNWithDecapsulateHeader h s.1 s.2.1 s.2.2
  | .encap h => flNWithEncapsulateHeader h s.1 s.2.1 s.2.2
  | .elec lo hi => flNWithElectionID lo hi s.1 s.2.1 s.2.2

/-- the table behind `WithDecapsulateHeader` / `WithEncapsulateHeader` is the model's `hdrEnum`:
IPinIP, MPLS, UDPV6 name the protobuf types 2, 4, 8; anything else (negative numbers included)
names none -/
theorem gen_encapMap (h : Int) :
    Gen.flNWithDecapsulateHeader_encapMap h = hdrEnum h.toNat ∧ Gen.flNWithEncapsulateHeader_encapMap h = hdrEnum h.toNat := by
  -- key by key, so that the order of the entries in the Go map literal does not matter
  rcases h with (_ | _ | _ | _ | n) | n <;> exact ⟨rfl, rfl⟩

def NhObs.apply (o : NhObs) : GNhCall → NhObs
  | .index i => { o with index := i }
  | .ni n => { o with ni := n }
  | .ip a => { o with hasNh := true, ip := some a }
  | .ifRef n => { o with hasNh := true, ifName := some n, subIf := none }
  | .subIfRef n k => { o with hasNh := true, ifName := some n, subIf := some k }
  | .mac m => { o with hasNh := true, mac := some m }
  | .ipInIp a b => { o with hasNh := true, ipInIp := some (a, b) }
  | .nhNI n => { o with hasNh := true, nhNI := some n }
  | .popTop => { o with hasNh := true, popTop := true }
  | .decap h => { o with hasNh := true, decapE := hdrEnum h.toNat }
  | .encap h => { o with hasNh := true, encapE := hdrEnum h.toNat }
  | .elec lo hi => { o with elec := some (lo.toNat, hi.toNat) }

theorem absN_run (s : StN) (c : GNhCall) : absN (runN s c) = (absN s).apply c := by
  obtain ⟨⟨idx, nh⟩, ni, e⟩ := s
  cases c with
  | index | ni | elec => rfl
  | decap h => cases nh <;> simp only [runN, flNWithDecapsulateHeader, (gen_encapMap h).1] <;> rfl
  | encap h => cases nh <;> simp only [runN, flNWithEncapsulateHeader, (gen_encapMap h).2] <;> rfl
  | _ => cases nh <;> rfl

section
-- `hdrEnum` stays folded: the two sides apply it to the same number, and unfolding its table to
-- see that is what would make the comparison slow
attribute [local irreducible] hdrEnum

/-- every translated next-hop method is the model's `apply` of its call, whether the payload
message existed before the call or is allocated by it -/
theorem gen_nh_step (s : StN) (c : GNhCall) (b : NhB) (hb : absN s = obsOfNhB b) :
    absN (runN s c) = obsOfNhB (b.apply c.toModel) := by
  rw [absN_run, hb]; cases c <;> rfl

end

theorem gen_nh_chain (cs : List GNhCall) (s : StN) (b : NhB) (hb : absN s = obsOfNhB b) :
    absN (cs.foldl runN s) = obsOfNhB ((cs.map GNhCall.toModel).foldl NhB.apply b) := by
  rw [List.foldl_map]
  exact List.foldl_rel (r := fun s b => absN s = obsOfNhB b) hb fun c _ s b => gen_nh_step s c b

/-- the parts of the payload the translated methods do not own (the pushed label stack, the
encapsulation headers) are left exactly as they are by every one of them -/
theorem gen_nh_frame (s : StN) (c : GNhCall) :
    ((runN s c).1.NextHop.map (·.PushedMplsLabelStack)).getD [] = (s.1.NextHop.map (·.PushedMplsLabelStack)).getD [] ∧
    ((runN s c).1.NextHop.map (·.EncapHeader)).getD 0 = (s.1.NextHop.map (·.EncapHeader)).getD 0 := by
  obtain ⟨⟨idx, nh⟩, ni, e⟩ := s
  cases c with
  | index | ni | elec => exact ⟨rfl, rfl⟩
  | _ => cases nh <;> constructor <;> rfl

theorem gen_nh_opProto (s : StN) :
    (flNOpProto s.1 s.2.1 s.2.2).1 = some { NetworkInstance := s.2.1, Entry := some (.NextHop (some s.1)), ElectionId := s.2.2 } ∧
    (flNOpProto s.1 s.2.1 s.2.2).2.1 = none ∧ (flNOpProto s.1 s.2.1 s.2.2).2.2 = s :=
  ⟨rfl, rfl, rfl⟩

theorem gen_nh_entryProto (s : StN) :
    (flNEntryProto s.1 s.2.1 s.2.2).1 = some { NetworkInstance := s.2.1, Entry := some (.NextHop (some s.1)) } ∧
    (flNEntryProto s.1 s.2.1 s.2.2).2.1 = none ∧ (flNEntryProto s.1 s.2.1 s.2.2).2.2 = s :=
  ⟨rfl, rfl, rfl⟩

theorem gen_nh_constructor :
    Gen.flNewNextHopEntry = some { pb := initN.1, ni := initN.2.1, electionID := initN.2.2 } := rfl

theorem gen_nh_translated :
    Gen.flNewNextHopEntry_problem = none ∧ Gen.flNWithIndex_problem = none ∧ Gen.flNWithNetworkInstance_problem = none ∧
    Gen.flNWithIPAddress_problem = none ∧ Gen.flNWithInterfaceRef_problem = none ∧ Gen.flNWithSubinterfaceRef_problem = none ∧
    Gen.flNWithMacAddress_problem = none ∧ Gen.flNWithIPinIP_problem = none ∧ Gen.flNWithNextHopNetworkInstance_problem = none ∧
    Gen.flNWithPopTopLabel_problem = none ∧ Gen.flNWithDecapsulateHeader_problem = none ∧
    Gen.flNWithEncapsulateHeader_problem = none ∧ Gen.flNWithElectionID_problem = none ∧ Gen.flNOpProto_problem = none ∧
    Gen.flNEntryProto_problem = none := ⟨rfl, rfl, rfl, rfl, rfl, rfl, rfl, rfl, rfl, rfl, rfl, rfl, rfl, rfl, rfl⟩

inductive GGetCall where
  | all | name (ni : String) | aft (a : Int)
  deriving DecidableEq, Repr

def runGet (r : GetRequestG) : GGetCall → GetRequestG
  | .all => flGetAllNetworkInstances r
  | .name ni => flGetWithNetworkInstance ni r
  | .aft a => flGetWithAFT a r

/-- the table behind `WithAFT`: each fluent AFT constant names the protobuf AFT type of the same
table (in particular `IPv6` names `IPV6` and `NextHop` names `NEXTHOP`), anything else `INVALID` -/
theorem gen_aftMap (a : Int) :
    Gen.aftMap a = if a = 1 then AFTType_ALL else if a = 2 then AFTType_IPV4 else if a = 3 then AFTType_NEXTHOP_GROUP
      else if a = 4 then AFTType_NEXTHOP else if a = 5 then AFTType_IPV6 else AFTType_INVALID := by
  -- key by key (the order of the map literal's entries does not matter)
  rcases a with (_ | _ | _ | _ | _ | _ | n) | n <;> rfl

theorem gen_get_step (r : GetRequestG) (c : GGetCall) :
    runGet r c = match c with
      | .all => { r with NetworkInstance := some .All }
      | .name ni => { r with NetworkInstance := some (.Name ni) }
      | .aft a => { r with Aft := Gen.aftMap a } := by
  cases c <;> rfl

theorem runGet_ni (c : GGetCall) (h : ∃ a, c = .aft a) (r : GetRequestG) :
    (runGet r c).NetworkInstance = r.NetworkInstance := by
  obtain ⟨a, rfl⟩ := h; rfl

theorem runGet_aft (c : GGetCall) (h : ∀ a, c ≠ .aft a) (r : GetRequestG) : (runGet r c).Aft = r.Aft := by
  cases c with
  | aft a => exact absurd rfl (h a)
  | _ => rfl

/-- the request a chain of Get setters ends in names the instance of the last instance call -/
theorem gen_get_ni_last (pre rest : List GGetCall) (r : GetRequestG) (ni : String)
    (h : ∀ c ∈ rest, ∃ a, c = .aft a) :
    ((pre ++ .name ni :: rest).foldl runGet r).NetworkInstance = some (.Name ni) :=
  fold_last runGet (·.NetworkInstance) pre _ rest r _ (fun _ => rfl) (fun c hc => runGet_ni c (h c hc))

theorem gen_get_all_last (pre rest : List GGetCall) (r : GetRequestG)
    (h : ∀ c ∈ rest, ∃ a, c = .aft a) :
    ((pre ++ .all :: rest).foldl runGet r).NetworkInstance = some .All :=
  fold_last runGet (·.NetworkInstance) pre _ rest r _ (fun _ => rfl) (fun c hc => runGet_ni c (h c hc))

theorem gen_get_aft_last (pre rest : List GGetCall) (r : GetRequestG) (a : Int)
    (h : ∀ c ∈ rest, ∀ a', c ≠ .aft a') :
    ((pre ++ .aft a :: rest).foldl runGet r).Aft = Gen.aftMap a :=
  fold_last runGet (·.Aft) pre _ rest r _ (fun _ => rfl) (fun c hc => runGet_aft c (h c hc))

inductive GFlushCall where
  | elec (lo hi : UInt64) | override | name (ni : String) | all
  deriving DecidableEq, Repr

def runFlush (r : FlushRequestB) : GFlushCall → FlushRequestB
  | .elec lo hi => flFlushWithElectionID lo hi r
  | .override => flFlushWithElectionOverride r
  | .name ni => flFlushWithNetworkInstance ni r
  | .all => flFlushWithAllNetworkInstances r

theorem gen_flush_step (r : FlushRequestB) (c : GFlushCall) :
    runFlush r c = match c with
      | .elec lo hi => { r with Election := some (.Id (some { lo := lo, hi := hi })) }
      | .override => { r with Election := some .Override }
      | .name ni => { r with NetworkInstance := some (.Name ni) }
      | .all => { r with NetworkInstance := some .All } := by
  cases c <;> rfl

def GFlushCall.isElec : GFlushCall → Bool
  | .elec _ _ | .override => true
  | _ => false

theorem runFlush_elec (c : GFlushCall) (h : c.isElec = false) (r : FlushRequestB) :
    (runFlush r c).Election = r.Election := by
  cases c <;> first | rfl | cases h

theorem runFlush_ni (c : GFlushCall) (h : c.isElec = true) (r : FlushRequestB) :
    (runFlush r c).NetworkInstance = r.NetworkInstance := by
  cases c <;> first | rfl | cases h

/-- the election choice of the request a chain ends in is the last one made: an explicit id
with exactly the two words given, or the override; untouched by the instance setters -/
theorem gen_flush_elec_last (pre rest : List GFlushCall) (r : FlushRequestB) (lo hi : UInt64)
    (h : ∀ c ∈ rest, c.isElec = false) :
    ((pre ++ .elec lo hi :: rest).foldl runFlush r).Election = some (.Id (some { lo := lo, hi := hi })) :=
  fold_last runFlush (·.Election) pre _ rest r _ (fun _ => rfl) (fun c hc => runFlush_elec c (h c hc))

theorem gen_flush_override_last (pre rest : List GFlushCall) (r : FlushRequestB)
    (h : ∀ c ∈ rest, c.isElec = false) :
    ((pre ++ .override :: rest).foldl runFlush r).Election = some .Override :=
  fold_last runFlush (·.Election) pre _ rest r _ (fun _ => rfl) (fun c hc => runFlush_elec c (h c hc))

theorem gen_flush_ni_last (pre rest : List GFlushCall) (r : FlushRequestB) (ni : String)
    (h : ∀ c ∈ rest, c.isElec = true) :
    ((pre ++ .name ni :: rest).foldl runFlush r).NetworkInstance = some (.Name ni) :=
  fold_last runFlush (·.NetworkInstance) pre _ rest r _ (fun _ => rfl) (fun c hc => runFlush_ni c (h c hc))

/-- a request nobody set an election choice on carries none (the server then answers
`UNSPECIFIED_ELECTION_BEHAVIOR` in single-primary mode) -/
theorem gen_flush_elec_unset (cs : List GFlushCall) (h : ∀ c ∈ cs, c.isElec = false) :
    (cs.foldl runFlush { Election := none, NetworkInstance := none }).Election = none :=
  fold_frame runFlush (·.Election) cs _ (fun c hc => runFlush_elec c (h c hc))

/-- the constructors allocate the states the chains above start from (`init4`, `init6`, `initL`,
`initG`): an empty protobuf with its payload message, no instance, no election id -/
theorem gen_constructors :
    Gen.flNewIPv4Entry = some { pb := init4.1, ni := init4.2.1, electionID := init4.2.2 } ∧
    Gen.flNewIPv6Entry = some { pb := init6.1, ni := init6.2.1, electionID := init6.2.2 } ∧
    Gen.flNewLabelEntry = some { pb := initL.1, ni := initL.2.1, electionID := initL.2.2 } ∧
    Gen.flNewNextHopGroupEntry = some { pb := initG.1, ni := initG.2.1, electionID := initG.2.2 } :=
  ⟨rfl, rfl, rfl, rfl⟩

theorem gen_constructors_translated :
    Gen.flNewIPv4Entry_problem = none ∧ Gen.flNewIPv6Entry_problem = none ∧ Gen.flNewLabelEntry_problem = none ∧
    Gen.flNewNextHopGroupEntry_problem = none := ⟨rfl, rfl, rfl, rfl⟩

/-- `c.Get()` / `c.Flush()` start from an empty request **every time they are called** (the
generated definitions take no state: nothing of an earlier chain can be in what they return) -/
theorem gen_request_constructors :
    Gen.flNewGet = some { pb := { NetworkInstance := none, Aft := AFTType_INVALID } } ∧
    Gen.flNewFlush = some { pb := { Election := none, NetworkInstance := none } } ∧
    Gen.flNewGet_problem = none ∧ Gen.flNewFlush_problem = none := ⟨rfl, rfl, rfl, rfl⟩

/-- a Get chain without an instance call names no instance; one without `WithAFT` names no table -/
theorem gen_get_unset (cs : List GGetCall) :
    ((∀ c ∈ cs, ∃ a, c = .aft a) →
      (cs.foldl runGet { NetworkInstance := none, Aft := AFTType_INVALID }).NetworkInstance = none) ∧
    ((∀ c ∈ cs, ∀ a, c ≠ .aft a) →
      (cs.foldl runGet { NetworkInstance := none, Aft := AFTType_INVALID }).Aft = AFTType_INVALID) := 
  ⟨fun h => fold_frame runGet (·.NetworkInstance) cs _ (fun c hc => runGet_ni c (h c hc)),
   fun h => fold_frame runGet (·.Aft) cs _ (fun c hc => runGet_aft c (h c hc))⟩

theorem gen_builders_translated :
    Gen.fl4WithPrefix_problem = none ∧ Gen.fl4WithNetworkInstance_problem = none ∧ Gen.fl4WithNextHopGroup_problem = none ∧
    Gen.fl4WithNextHopGroupNetworkInstance_problem = none ∧ Gen.fl4WithMetadata_problem = none ∧
    Gen.fl4WithElectionID_problem = none ∧ Gen.fl4OpProto_problem = none ∧ Gen.fl4EntryProto_problem = none ∧
    Gen.fl6WithPrefix_problem = none ∧ Gen.fl6WithNetworkInstance_problem = none ∧ Gen.fl6WithNextHopGroup_problem = none ∧
    Gen.fl6WithNextHopGroupNetworkInstance_problem = none ∧ Gen.fl6WithMetadata_problem = none ∧
    Gen.fl6WithElectionID_problem = none ∧ Gen.fl6OpProto_problem = none ∧ Gen.fl6EntryProto_problem = none ∧
    Gen.flLWithLabel_problem = none ∧ Gen.flLWithNetworkInstance_problem = none ∧ Gen.flLWithNextHopGroup_problem = none ∧
    Gen.flLWithNextHopGroupNetworkInstance_problem = none ∧ Gen.flLWithPoppedLabelStack_problem = none ∧
    Gen.flLOpProto_problem = none ∧ Gen.flLEntryProto_problem = none ∧
    Gen.flGWithID_problem = none ∧ Gen.flGWithNetworkInstance_problem = none ∧ Gen.flGWithBackupNHG_problem = none ∧
    Gen.flGAddNextHop_problem = none ∧ Gen.flGWithElectionID_problem = none ∧ Gen.flGOpProto_problem = none ∧
    Gen.flGEntryProto_problem = none ∧
    Gen.flGetAllNetworkInstances_problem = none ∧ Gen.flGetWithNetworkInstance_problem = none ∧ Gen.flGetWithAFT_problem = none ∧
    Gen.flFlushWithElectionID_problem = none ∧ Gen.flFlushWithElectionOverride_problem = none ∧
    Gen.flFlushWithNetworkInstance_problem = none ∧ Gen.flFlushWithAllNetworkInstances_problem = none := by
  refine ⟨rfl, rfl, rfl, rfl, rfl, rfl, rfl, rfl, rfl, rfl, rfl, rfl, rfl, rfl, rfl, rfl, rfl, rfl, rfl, rfl, rfl, rfl, rfl,
    rfl, rfl, rfl, rfl, rfl, rfl, rfl, rfl, rfl, rfl, rfl, rfl, rfl, rfl⟩

end Gribi.GenEquiv
