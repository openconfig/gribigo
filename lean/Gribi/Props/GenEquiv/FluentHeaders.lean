/-
The encapsulation-header builders of the fluent API (`fluent/fluent.go`:
`MPLSEncapHeader().WithLabels(…)`, `UDPV6EncapHeader().WithDSCP(…)…`, `EncapProto()`). The
abstraction maps a header under construction to the model's `Fluent.Hdr`.
-/
import Gribi.Gen.FlNewMPLSEncapHeader
import Gribi.Gen.FlHWithLabels
import Gribi.Gen.FlHMplsEncapProto
import Gribi.Gen.FlNewUDPV6EncapHeader
import Gribi.Gen.FlHWithDSCP
import Gribi.Gen.FlHWithDstIP
import Gribi.Gen.FlHWithDstUDPPort
import Gribi.Gen.FlHWithIPTTL
import Gribi.Gen.FlHWithSrcIP
import Gribi.Gen.FlHWithSrcUDPPort
import Gribi.Gen.FlHUdpEncapProto
import Gribi.Model.Fluent
import Gribi.Props.GenEquiv.Loop
namespace Gribi.GenEquiv
open Gribi Gribi.Gen Gribi.Fluent

def absMplsHdr (pb : EhMplsHdrB) : Hdr := .mpls (pb.Mpls.MplsLabelStack.map (·.MplsLabelStackUint64))

def absUdpHdr (pb : EhUdpHdrB) : Hdr :=
  .udp6 { dscp := pb.UdpV6.Dscp.map (·.Value), dstIp := pb.UdpV6.DstIp.map (·.Value),
          dstPort := pb.UdpV6.DstUdpPort.map (·.Value), ttl := pb.UdpV6.IpTtl.map (·.Value),
          srcIp := pb.UdpV6.SrcIp.map (·.Value), srcPort := pb.UdpV6.SrcUdpPort.map (·.Value) }

/-- the constructors: the protobuf type of the header (MPLS = 4, UDPv6 = 8, through the table
`encapMap`; what the model renders as `e4` / `e8`) and an empty payload -/
theorem gen_header_constructors :
    (Gen.flNewMPLSEncapHeader.map (fun b => (b.pb.Type_, absMplsHdr b.pb))) = some (4, .mpls []) ∧
    (Gen.flNewUDPV6EncapHeader.map (fun b => (b.pb.Type_, absUdpHdr b.pb))) = some (8, .udp6 {}) :=
  ⟨rfl, rfl⟩

theorem labels_loop (ls : List Nat) (pb : EhMplsHdrB) :
    Gen.flHWithLabels.loop1 ls pb =
      { pb with Mpls := { pb.Mpls with MplsLabelStack := pb.Mpls.MplsLabelStack ++ ls.map (fun l => ⟨l⟩) } } :=
  loop_snoc (loop := fun l a => Gen.flHWithLabels.loop1 l { pb with Mpls := { pb.Mpls with MplsLabelStack := a } })
    (fun _ => rfl) (fun _ _ _ => rfl) ls pb.Mpls.MplsLabelStack

/-- `WithLabels(labels…)` appends the labels, in order, to the stack the header already has (the
header's type is untouched) -/
theorem gen_header_withLabels (ls : List Nat) (pb : EhMplsHdrB) :
    absMplsHdr (Gen.flHWithLabels ls pb) =
      .mpls (pb.Mpls.MplsLabelStack.map (·.MplsLabelStackUint64) ++ ls) ∧
    (Gen.flHWithLabels ls pb).Type_ = pb.Type_ := by
  simp [Gen.flHWithLabels, labels_loop, absMplsHdr, List.map_map, Function.comp_def]

inductive GUdpCall where
  | dscp (v : Nat) | dstIp (a : String) | dstPort (p : Nat) | ttl (t : Nat) | srcIp (a : String) | srcPort (p : Nat)
  deriving DecidableEq, Repr

def runUdp (pb : EhUdpHdrB) : GUdpCall → EhUdpHdrB
  | .dscp v => flHWithDSCP v pb
  | .dstIp a => flHWithDstIP a pb
  | .dstPort p => flHWithDstUDPPort p pb
  | .ttl t => flHWithIPTTL t pb
  | .srcIp a => flHWithSrcIP a pb
  | .srcPort p => flHWithSrcUDPPort p pb

def udpSpec (u : Udp6) : GUdpCall → Udp6
  | .dscp v => { u with dscp := some v }
  | .dstIp a => { u with dstIp := some a }
  | .dstPort p => { u with dstPort := some p }
  | .ttl t => { u with ttl := some t }
  | .srcIp a => { u with srcIp := some a }
  | .srcPort p => { u with srcPort := some p }

def udpOf : Hdr → Udp6
  | .udp6 u => u
  | _ => {}

/-- each UDPv6 setter sets exactly the field it names (source and destination are not swapped,
port and address not confused), and leaves the header's type alone -/
theorem gen_header_udp_step (pb : EhUdpHdrB) (c : GUdpCall) :
    absUdpHdr (runUdp pb c) = .udp6 (udpSpec (udpOf (absUdpHdr pb)) c) ∧ (runUdp pb c).Type_ = pb.Type_ := by
  cases c <;> constructor <;> rfl

theorem gen_header_udp_chain (cs : List GUdpCall) (pb : EhUdpHdrB) :
    absUdpHdr (cs.foldl runUdp pb) = .udp6 (cs.foldl udpSpec (udpOf (absUdpHdr pb))) :=
  congrArg Hdr.udp6 (List.foldl_hom (fun pb => udpOf (absUdpHdr pb))
    fun pb c => (congrArg udpOf (gen_header_udp_step pb c).1).symm).symm

theorem gen_header_encapProto (m : EhMplsHdrB) (u : EhUdpHdrB) :
    Gen.flHMplsEncapProto m = (some m, m) ∧ Gen.flHUdpEncapProto u = (some u, u) := ⟨rfl, rfl⟩

theorem gen_headers_translated :
    Gen.flNewMPLSEncapHeader_problem = none ∧ Gen.flHWithLabels_problem = none ∧ Gen.flHMplsEncapProto_problem = none ∧
    Gen.flNewUDPV6EncapHeader_problem = none ∧ Gen.flHWithDSCP_problem = none ∧ Gen.flHWithDstIP_problem = none ∧
    Gen.flHWithDstUDPPort_problem = none ∧ Gen.flHWithIPTTL_problem = none ∧ Gen.flHWithSrcIP_problem = none ∧
    Gen.flHWithSrcUDPPort_problem = none ∧ Gen.flHUdpEncapProto_problem = none :=
  ⟨rfl, rfl, rfl, rfl, rfl, rfl, rfl, rfl, rfl, rfl, rfl⟩

end Gribi.GenEquiv
