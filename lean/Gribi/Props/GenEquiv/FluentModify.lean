/-
The fluent client's Modify wrapper (`fluent/fluent.go`): `AddEntry`, `DeleteEntry`, `ReplaceEntry`
(each builds one request with `entriesToModifyRequest` and queues it with `g.parent.c.Q`),
`UpdateElectionID`, `Enqueue`, `InjectRequest`; and the four setters of the connection builder.

The calls are composed into a run of the fluent client (`flStep` / `flRun`): the state is what the
Go client keeps between calls — the operation counter and the election id most recently set —
and the output is the sequence of requests queued on the client. The `flRun_*` theorems are for
every sequence of calls: ids are consecutive across calls of any kind, and a request carries the
stamp of the election id *most recently set before it* (C18's "current election id").
-/
import Gribi.Gen.FlAddEntry
import Gribi.Gen.FlDeleteEntry
import Gribi.Gen.FlReplaceEntry
import Gribi.Gen.FlUpdateElectionID
import Gribi.Gen.FlEnqueue
import Gribi.Gen.FlInjectRequest
import Gribi.Gen.FlCWithPersistence
import Gribi.Gen.FlCWithFIBACK
import Gribi.Gen.FlCWithRedundancyMode
import Gribi.Gen.FlCWithInitialElectionID
import Gribi.Props.GenEquiv.Fluent
import Gribi.Props.GenEquiv.Loop
namespace Gribi.GenEquiv
open Gribi Gribi.Gen

/-- `AddEntry` / `DeleteEntry` / `ReplaceEntry` on entries whose messages can be built and carry
no explicit id: the test goes on, the counter advances by the number of entries, and exactly one
request is queued — the one `modifySpec` describes, with the operation type of the method -/
theorem gen_flAddEntry (conn : Option GRIBIConnection) (cur : Option U128) (opErr : Status)
    (es : List AFTOperation) (n : Nat) (h : ∀ e ∈ es, e.Id = 0) :
    Gen.flAddEntry (es.map some) (some ()) conn cur opErr n =
      (true, n + es.length, [Eff.flQ (some { Operation := modifySpec AFTOperation_ADD conn cur n es })]) := by
  simp [Gen.flAddEntry, gen_fluent_modify _ conn cur opErr es n h]

theorem gen_flDeleteEntry (conn : Option GRIBIConnection) (cur : Option U128) (opErr : Status)
    (es : List AFTOperation) (n : Nat) (h : ∀ e ∈ es, e.Id = 0) :
    Gen.flDeleteEntry (es.map some) (some ()) conn cur opErr n =
      (true, n + es.length, [Eff.flQ (some { Operation := modifySpec AFTOperation_DELETE conn cur n es })]) := by
  simp [Gen.flDeleteEntry, gen_fluent_modify _ conn cur opErr es n h]

theorem gen_flReplaceEntry (conn : Option GRIBIConnection) (cur : Option U128) (opErr : Status)
    (es : List AFTOperation) (n : Nat) (h : ∀ e ∈ es, e.Id = 0) :
    Gen.flReplaceEntry (es.map some) (some ()) conn cur opErr n =
      (true, n + es.length, [Eff.flQ (some { Operation := modifySpec AFTOperation_REPLACE conn cur n es })]) := by
  simp [Gen.flReplaceEntry, gen_fluent_modify _ conn cur opErr es n h]

/-- … and the three types are different wire numbers -/
theorem gen_flTypes : AFTOperation_ADD = 1 ∧ AFTOperation_REPLACE = 2 ∧ AFTOperation_DELETE = 3 := ⟨rfl, rfl, rfl⟩

theorem flAddEntry_err {es : List (Option AFTOperation)} {conn : Option GRIBIConnection} {cur : Option U128}
    {opErr : Status} {n : Nat} (h : (Gen.entriesToModifyRequest AFTOperation_ADD es (some ()) conn cur opErr n).2.1 ≠ none) :
    (Gen.flAddEntry es (some ()) conn cur opErr n).1 = false ∧ (Gen.flAddEntry es (some ()) conn cur opErr n).2.2 = [] := by
  simp only [Gen.flAddEntry]
  cases hx : (entriesToModifyRequest AFTOperation_ADD es (some ()) conn cur opErr n).2.1 with
  | none => exact absurd hx h
  | some _ => exact ⟨rfl, rfl⟩

/-- entries that cannot be built (an `OpProto()` that fails, an explicit id): the test is failed
(`t.Fatalf`) and **nothing is queued** -/
theorem gen_flAddEntry_rejects (conn : Option GRIBIConnection) (cur : Option U128) (opErr : Status)
    (e : AFTOperation) (rest : List (Option AFTOperation)) (n : Nat) (h : e.Id ≠ 0) :
    (Gen.flAddEntry (some e :: rest) (some ()) conn cur opErr n).1 = false ∧
    (Gen.flAddEntry (some e :: rest) (some ()) conn cur opErr n).2.2 = [] ∧
    (Gen.flAddEntry (none :: rest) (some ()) conn cur opErr n).1 = false ∧
    (Gen.flAddEntry (none :: rest) (some ()) conn cur opErr n).2.2 = [] :=
  have hr := gen_fluent_modify_rejects AFTOperation_ADD conn cur opErr e rest n h
  ⟨(flAddEntry_err hr.1).1, (flAddEntry_err hr.1).2, (flAddEntry_err hr.2).1, (flAddEntry_err hr.2).2⟩

/-- `UpdateElectionID(low, high)`: the client's current election id becomes exactly these two
words — whatever it was, lower or higher — and exactly one request is queued, carrying them -/
theorem gen_flUpdateElectionID (lo hi : UInt64) (cur : Option U128) :
    Gen.flUpdateElectionID lo hi cur =
      (some { lo := lo, hi := hi }, [Eff.flQElec (some { ElectionId := some { lo := lo, hi := hi } })]) := rfl

theorem enqueue_loop (l : List (Option ReqTok)) (effs : List Eff) :
    Gen.flEnqueue.loop1 l effs = effs ++ l.map Eff.flQTok :=
  loop_snoc (k := id) (fun _ => rfl) (fun _ _ _ => rfl) l effs

theorem gen_flEnqueue (l : List (Option ReqTok)) : Gen.flEnqueue l = l.map Eff.flQTok := enqueue_loop l []

theorem gen_flInjectRequest (m : Option ReqTok) : Gen.flInjectRequest m = [Eff.flQTok m] := rfl

/-- the calls an application makes on `c.Modify()` -/
inductive FlCall where
  | add (es : List AFTOperation) | delete (es : List AFTOperation) | replace (es : List AFTOperation)
  | updateElection (lo hi : UInt64) | enqueue (l : List (Option ReqTok)) | inject (m : Option ReqTok)

/-- what the client keeps between calls -/
structure FlState where
  opCount : Nat
  curElec : Option U128
  /-- the requests queued so far, oldest first -/
  queued : List Eff := []

/-- the client's mode `conn` does not change during a run -/
def flStep (conn : Option GRIBIConnection) (opErr : Status) (s : FlState) : FlCall → FlState
  | .add es => let r := Gen.flAddEntry (es.map some) (some ()) conn s.curElec opErr s.opCount
               { s with opCount := r.2.1, queued := s.queued ++ r.2.2 }
  | .delete es => let r := Gen.flDeleteEntry (es.map some) (some ()) conn s.curElec opErr s.opCount
                  { s with opCount := r.2.1, queued := s.queued ++ r.2.2 }
  | .replace es => let r := Gen.flReplaceEntry (es.map some) (some ()) conn s.curElec opErr s.opCount
                   { s with opCount := r.2.1, queued := s.queued ++ r.2.2 }
  | .updateElection lo hi => let r := Gen.flUpdateElectionID lo hi s.curElec
                             { s with curElec := r.1, queued := s.queued ++ r.2 }
  | .enqueue l => { s with queued := s.queued ++ Gen.flEnqueue l }
  | .inject m => { s with queued := s.queued ++ Gen.flInjectRequest m }

def flRun (conn : Option GRIBIConnection) (opErr : Status) (s : FlState) (cs : List FlCall) : FlState :=
  cs.foldl (flStep conn opErr) s

/-- the entries of a call carry no explicit id (the builders never set one) -/
def FlCall.wf : FlCall → Prop
  | .add es | .delete es | .replace es => ∀ e ∈ es, e.Id = 0
  | _ => True

def FlCall.ops : FlCall → Nat
  | .add es | .delete es | .replace es => es.length
  | _ => 0

def elecAfter (cur : Option U128) : List FlCall → Option U128
  | [] => cur
  | .updateElection lo hi :: t => elecAfter (some { lo := lo, hi := hi }) t
  | _ :: t => elecAfter cur t

theorem flStep_spec (conn : Option GRIBIConnection) (opErr : Status) (s : FlState) (c : FlCall) (h : c.wf) :
    flStep conn opErr s c =
      match c with
      | .add es => { s with opCount := s.opCount + es.length,
                            queued := s.queued ++ [Eff.flQ (some { Operation := modifySpec AFTOperation_ADD conn s.curElec s.opCount es })] }
      | .delete es => { s with opCount := s.opCount + es.length,
                               queued := s.queued ++ [Eff.flQ (some { Operation := modifySpec AFTOperation_DELETE conn s.curElec s.opCount es })] }
      | .replace es => { s with opCount := s.opCount + es.length,
                                queued := s.queued ++ [Eff.flQ (some { Operation := modifySpec AFTOperation_REPLACE conn s.curElec s.opCount es })] }
      | .updateElection lo hi => { s with curElec := some { lo := lo, hi := hi },
                                          queued := s.queued ++ [Eff.flQElec (some { ElectionId := some { lo := lo, hi := hi } })] }
      | .enqueue l => { s with queued := s.queued ++ l.map Eff.flQTok }
      | .inject m => { s with queued := s.queued ++ [Eff.flQTok m] } := by
  cases c with
  | add es => simp only [flStep, gen_flAddEntry conn s.curElec opErr es s.opCount h]
  | delete es => simp only [flStep, gen_flDeleteEntry conn s.curElec opErr es s.opCount h]
  | replace es => simp only [flStep, gen_flReplaceEntry conn s.curElec opErr es s.opCount h]
  | updateElection lo hi => rfl
  | enqueue l => simp only [flStep, gen_flEnqueue]
  | inject m => rfl

/-- **ids across calls**: after any sequence of calls the counter has advanced by the total
number of operations issued — so the ids of one run are 1, 2, 3, … without gap or repetition,
whatever kinds of calls are mixed -/
theorem flRun_count (conn : Option GRIBIConnection) (opErr : Status) (cs : List FlCall) (s : FlState)
    (h : ∀ c ∈ cs, c.wf) :
    (flRun conn opErr s cs).opCount = s.opCount + (cs.map FlCall.ops).sum := by
  induction cs generalizing s with
  | nil => rfl
  | cons c t ih =>
    rw [flRun, List.foldl_cons, ← flRun, ih _ fun x hx => h x (List.mem_cons_of_mem _ hx),
      flStep_spec conn opErr s c (h c (List.mem_cons_self ..)), List.map_cons, List.sum_cons, ← Nat.add_assoc]
    cases c <;> rfl

/-- **current election id**: after any sequence of calls, well-formed or not, the client's election
id is the one of the last `UpdateElectionID` (or the initial one if there was none) -/
theorem flRun_curElec (conn : Option GRIBIConnection) (opErr : Status) (cs : List FlCall) (s : FlState) :
    (flRun conn opErr s cs).curElec = elecAfter s.curElec cs := by
  induction cs generalizing s with
  | nil => rfl
  | cons c t ih => exact (ih (flStep conn opErr s c)).trans (by cases c <;> rfl)

theorem flRun_elec (conn : Option GRIBIConnection) (opErr : Status) (cs : List FlCall) (s : FlState)
    (h : ∀ c ∈ cs, c.wf) :
    (flRun conn opErr s cs).curElec = elecAfter s.curElec cs :=
  flRun_curElec conn opErr cs s

/-- **what an `AddEntry` after a run queues**: one request whose operations are numbered from the
run's counter on and stamped with the election id that is current *then* -/
theorem flRun_then_add (conn : Option GRIBIConnection) (opErr : Status) (cs : List FlCall) (s : FlState)
    (es : List AFTOperation) (h : ∀ c ∈ cs, c.wf) (he : ∀ e ∈ es, e.Id = 0) :
    (flRun conn opErr s (cs ++ [.add es])).queued =
      (flRun conn opErr s cs).queued ++
        [Eff.flQ (some { Operation := modifySpec AFTOperation_ADD conn (elecAfter s.curElec cs)
                          (s.opCount + (cs.map FlCall.ops).sum) es })] := by
  rw [← flRun_count conn opErr cs s h, ← flRun_elec conn opErr cs s h, flRun, List.foldl_append, ← flRun]
  exact congrArg FlState.queued (flStep_spec conn opErr _ (.add es) he)

/-- queued requests are never taken back or changed by later calls: the queue only grows at its end -/
theorem flRun_prefix (conn : Option GRIBIConnection) (opErr : Status) (cs : List FlCall) (s : FlState) :
    ∃ more, (flRun conn opErr s cs).queued = s.queued ++ more :=
  have : s.queued <+: (flRun conn opErr s cs).queued :=
    List.foldlRecOn cs _ (motive := fun t : FlState => s.queued <+: t.queued) (List.prefix_refl _)
      fun t ht c _ => ht.trans (by cases c <;> exact List.prefix_append _ _)
  this.imp fun _ h => h.symm

/-- the connection builder (what the client will negotiate, and its first election id): each of
the four setters changes what it names and nothing else; `WithInitialElectionID` sets the
connection's initial id **and** the client's current id to exactly the two words given -/
theorem gen_conn_setters (p f : Bool) (m : Int) (e c : Option U128) (m' : Int) (lo hi : UInt64) :
    Gen.flCWithPersistence p f m e c = (true, f, m, e, c) ∧
    Gen.flCWithFIBACK p f m e c = (p, true, m, e, c) ∧
    Gen.flCWithRedundancyMode m' p f m e c = (p, f, m', e, c) ∧
    Gen.flCWithInitialElectionID lo hi p f m e c = (p, f, m, some { lo := lo, hi := hi }, some { lo := lo, hi := hi }) :=
  ⟨rfl, rfl, rfl, rfl⟩

/-- from the connection builder to the wire: the operations of the first `AddEntry` after
`WithInitialElectionID(lo, hi)` on an elected-primary client are stamped with (lo, hi) -/
theorem gen_conn_initial_stamp (p f : Bool) (m : Int) (e c : Option U128) (lo hi : UInt64) (opErr : Status)
    (es : List AFTOperation) (n : Nat) (h : ∀ x ∈ es, x.Id = 0) (hn : ∀ x ∈ es, x.ElectionId = none) :
    let cur := (Gen.flCWithInitialElectionID lo hi p f m e c).2.2.2.2
    (Gen.flAddEntry (es.map some) (some ()) (some { redundMode := 2 }) cur opErr n).2.2 =
      [Eff.flQ (some { Operation := modifySpec AFTOperation_ADD (some { redundMode := 2 }) (some { lo := lo, hi := hi }) n es })] ∧
    ∀ o ∈ modifySpec AFTOperation_ADD (some { redundMode := 2 }) (some { lo := lo, hi := hi }) n es,
      o.ElectionId = some { lo := lo, hi := hi } := by
  refine ⟨?_, ?_⟩
  · simp only [(gen_conn_setters p f m e c 0 lo hi).2.2.2]
    rw [gen_flAddEntry _ _ opErr es n h]
  · intro o ho
    have := List.mem_map_of_mem (f := fun o => (o.Op, o.ElectionId, o.Body)) ho
    rw [modifySpec_fields] at this
    obtain ⟨x, hx, hxe⟩ := List.mem_map.mp this
    rw [← (Prod.mk.inj (Prod.mk.inj hxe).2).1]
    simp [stampSpec, hn x hx, elected]

theorem gen_conn_translated :
    Gen.flCWithPersistence_problem = none ∧ Gen.flCWithFIBACK_problem = none ∧ Gen.flCWithRedundancyMode_problem = none ∧
    Gen.flCWithInitialElectionID_problem = none := ⟨rfl, rfl, rfl, rfl⟩

/-- the hypotheses of the run theorems are satisfiable. Two entries, an election update, one more
entry: ids 1, 2 and 3; the first request is stamped with the initial id, the last with the updated
one; the update is queued between them -/
example :
    let e : AFTOperation := { Id := 0, ElectionId := none, Op := 0 }
    let s0 : FlState := { opCount := 0, curElec := some { lo := 1, hi := 0 } }
    let cs : List FlCall := [.add [e, e], .updateElection 7 0, .add [e]]
    (∀ c ∈ cs, c.wf) ∧
    (flRun (some { redundMode := 2 }) ⟨.Unknown, .none⟩ s0 cs).opCount = 3 ∧
    (flRun (some { redundMode := 2 }) ⟨.Unknown, .none⟩ s0 cs).curElec = some { lo := 7, hi := 0 } ∧
    (flRun (some { redundMode := 2 }) ⟨.Unknown, .none⟩ s0 cs).queued =
      [Eff.flQ (some { Operation := [{ e with Id := 1, Op := AFTOperation_ADD, ElectionId := some { lo := 1, hi := 0 } },
                                      { e with Id := 2, Op := AFTOperation_ADD, ElectionId := some { lo := 1, hi := 0 } }] }),
       Eff.flQElec (some { ElectionId := some { lo := 7, hi := 0 } }),
       Eff.flQ (some { Operation := [{ e with Id := 3, Op := AFTOperation_ADD, ElectionId := some { lo := 7, hi := 0 } }] })] := by
  refine ⟨?_, ?_, ?_, ?_⟩
  · intro c hc
    simp only [List.mem_cons, List.mem_nil_iff, or_false] at hc
    rcases hc with rfl | rfl | rfl <;> simp [FlCall.wf]
  · rfl
  · rfl
  · rfl

theorem gen_flmodify_translated :
    Gen.flAddEntry_problem = none ∧ Gen.flDeleteEntry_problem = none ∧ Gen.flReplaceEntry_problem = none ∧
    Gen.flUpdateElectionID_problem = none ∧ Gen.flEnqueue_problem = none ∧ Gen.flInjectRequest_problem = none :=
  ⟨rfl, rfl, rfl, rfl, rfl, rfl⟩

end Gribi.GenEquiv
