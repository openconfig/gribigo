/-
The fluent operation-result builder (`fluent/fluent.go`: `OperationResult().With…().AsResult()`),
with which tests — the compliance suite among them — write down the `client.OpResult` they expect
a checker of `chk` to find.

Each method sets exactly the field it names (`resSpec`); the details record is allocated by the
first method that needs it, and a later one keeps what earlier ones put there.
-/
import Gribi.Gen.FlNewOperationResult
import Gribi.Gen.FlRWithCurrentServerElectionID
import Gribi.Gen.FlRWithSuccessfulSessionParams
import Gribi.Gen.FlRWithOperationID
import Gribi.Gen.FlRWithIPv4Operation
import Gribi.Gen.FlRWithIPv6Operation
import Gribi.Gen.FlRWithNextHopGroupOperation
import Gribi.Gen.FlRWithNextHopOperation
import Gribi.Gen.FlRWithMPLSOperation
import Gribi.Gen.FlRWithOperationType
import Gribi.Gen.FlRWithProgrammingResult
import Gribi.Gen.FlRAsResult
import Gribi.Props.GenEquiv.FluentBuilders
namespace Gribi.GenEquiv
open Gribi Gribi.Gen

/-- the empty result `OperationResult()` starts from -/
def emptyRes : COpResult :=
  { Timestamp := 0, Latency := 0, CurrentServerElectionID := none, SessionParameters := none, OperationID := 0,
    ClientError := "", ServerError := "", ProgrammingResult := AFTResult_UNSET, Details := none }

def emptyDetails : OpDetailsResults :=
  { Type_ := 0, NextHopIndex := 0, NextHopGroupID := 0, IPv4Prefix := "", IPv6Prefix := "", MPLSLabel := 0 }

theorem gen_result_constructor : Gen.flNewOperationResult = some { r := emptyRes } := rfl

def detailsOf (r : COpResult) : OpDetailsResults := r.Details.getD emptyDetails

inductive GResCall where
  | elec (lo hi : UInt64) | params | opId (i : Nat) | v4 (p : String) | v6 (p : String) | nhg (i : Nat) | nh (i : Nat)
  | mpls (i : Nat) | opType (c : Nat) | prog (r : Int)
  deriving DecidableEq, Repr

def runRes (r : COpResult) : GResCall → COpResult
  | .elec lo hi => flRWithCurrentServerElectionID lo hi r
  | .params => flRWithSuccessfulSessionParams r
  | .opId i => flRWithOperationID i r
  | .v4 p => flRWithIPv4Operation p r
  | .v6 p => flRWithIPv6Operation p r
  | .nhg i => flRWithNextHopGroupOperation i r
  | .nh i => flRWithNextHopOperation i r
  | .mpls i => flRWithMPLSOperation i r
  | .opType c => flRWithOperationType c r
  | .prog x => flRWithProgrammingResult x r

/-- the table behind `WithProgrammingResult`: `ProgrammingFailed`, `InstalledInRIB`, `InstalledInFIB`
are 0, 1, 2; a missing key reads as the zero value, UNSET -/
theorem gen_programmingResultMap (k : Int) :
    Gen.programmingResultMap k = if k = 0 then AFTResult_FAILED else if k = 1 then AFTResult_RIB_PROGRAMMED
      else if k = 2 then AFTResult_FIB_PROGRAMMED else AFTResult_UNSET := by
  -- key by key (the order of the map literal's entries does not matter)
  rcases k with (_ | _ | _ | n) | n <;> rfl

/-- what each method does, said directly: the field it names and nothing else; the methods that
describe the operation write into the details record, allocating it when the result has none -/
def resSpec (r : COpResult) : GResCall → COpResult
  | .elec lo hi => { r with CurrentServerElectionID := some { lo := lo, hi := hi } }
  | .params => { r with SessionParameters := some { Status := SessionParametersResult_OK } }
  | .opId i => { r with OperationID := i }
  | .v4 p => { r with Details := some { detailsOf r with IPv4Prefix := p } }
  | .v6 p => { r with Details := some { detailsOf r with IPv6Prefix := p } }
  | .nhg i => { r with Details := some { detailsOf r with NextHopGroupID := i } }
  | .nh i => { r with Details := some { detailsOf r with NextHopIndex := i } }
  | .mpls i => { r with Details := some { detailsOf r with MPLSLabel := i } }
  | .opType c => { r with Details := some { detailsOf r with Type_ := c } }
  | .prog x => { r with ProgrammingResult := Gen.programmingResultMap x }

theorem gen_result_step (r : COpResult) (c : GResCall) : runRes r c = resSpec r c := by
  obtain ⟨_, _, _, _, _, _, _, _, _ | d⟩ := r <;> cases c <;> rfl

theorem gen_result_chain (cs : List GResCall) (r : COpResult) : cs.foldl runRes r = cs.foldl resSpec r :=
  congrArg (cs.foldl · r) (funext fun r => funext (gen_result_step r))

/-- `AsResult` hands out the result as built, and leaves the builder as it is -/
theorem gen_result_asResult (r : COpResult) : Gen.flRAsResult r = (some r, r) := rfl

def GResCall.inDetails : GResCall → Bool
  | .v4 _ | .v6 _ | .nhg _ | .nh _ | .mpls _ | .opType _ => true
  | _ => false

/-- a result on which no operation-describing method was called has **no** details record — the
checkers of `chk` then ignore the details of what they compare it with (the documented meaning of
a want without details) -/
theorem gen_result_no_details (cs : List GResCall) (h : ∀ c ∈ cs, c.inDetails = false) :
    (cs.foldl runRes emptyRes).Details = none :=
  fold_frame runRes (·.Details) cs emptyRes (fun c hc t => by
    have := h c hc
    cases c <;> first | rfl | cases this)

/-- … and once one was called it has one, for good -/
theorem gen_result_details_stay (r : COpResult) (c : GResCall) (h : r.Details.isSome) : (runRes r c).Details.isSome := by
  rw [gen_result_step]
  cases c <;> first | exact h | rfl

/-- the operation type a result carries is the one given last; the methods naming the key leave it alone -/
theorem gen_result_type_last (pre rest : List GResCall) (r : COpResult) (c : Nat)
    (h : ∀ x ∈ rest, ∀ c', x ≠ .opType c') :
    (detailsOf ((pre ++ .opType c :: rest).foldl runRes r)).Type_ = c := by
  apply fold_last runRes (fun t => (detailsOf t).Type_)
  · intro t; rw [gen_result_step]; rfl
  · intro x hx t
    rw [gen_result_step]
    cases x with
    | opType c' => exact absurd rfl (h _ hx c')
    | _ => rfl

/-- the keys of different entry kinds live in different fields: naming an IPv4 prefix does not
touch the IPv6 prefix, a group id not the next-hop index, … (a result is never of two kinds by
accident of the builder) -/
theorem gen_result_keys_independent (r : COpResult) (p : String) (i : Nat) :
    (detailsOf (runRes r (.v4 p))).IPv6Prefix = (detailsOf r).IPv6Prefix ∧
    (detailsOf (runRes r (.v6 p))).IPv4Prefix = (detailsOf r).IPv4Prefix ∧
    (detailsOf (runRes r (.nhg i))).NextHopIndex = (detailsOf r).NextHopIndex ∧
    (detailsOf (runRes r (.nh i))).NextHopGroupID = (detailsOf r).NextHopGroupID ∧
    (detailsOf (runRes r (.mpls i))).NextHopGroupID = (detailsOf r).NextHopGroupID ∧
    (detailsOf (runRes r (.nhg i))).MPLSLabel = (detailsOf r).MPLSLabel := by
  simp [gen_result_step, resSpec, detailsOf]

theorem gen_result_translated :
    Gen.flNewOperationResult_problem = none ∧ Gen.flRWithCurrentServerElectionID_problem = none ∧
    Gen.flRWithSuccessfulSessionParams_problem = none ∧ Gen.flRWithOperationID_problem = none ∧
    Gen.flRWithIPv4Operation_problem = none ∧ Gen.flRWithIPv6Operation_problem = none ∧
    Gen.flRWithNextHopGroupOperation_problem = none ∧ Gen.flRWithNextHopOperation_problem = none ∧
    Gen.flRWithMPLSOperation_problem = none ∧ Gen.flRWithOperationType_problem = none ∧
    Gen.flRWithProgrammingResult_problem = none ∧ Gen.flRAsResult_problem = none :=
  ⟨rfl, rfl, rfl, rfl, rfl, rfl, rfl, rfl, rfl, rfl, rfl, rfl⟩

end Gribi.GenEquiv
