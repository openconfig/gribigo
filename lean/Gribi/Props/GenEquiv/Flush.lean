/-
`checkFlushRequest` and `Server.Flush` (server/server.go) against the model's `Server.checkFlush`
and `Server.flush`.
-/
import Gribi.Gen.CheckFlushRequest
import Gribi.Gen.Flush
import Gribi.Props.GenEquiv.Base
import Gribi.Lemmas.SrvStep
namespace Gribi.GenEquiv
open Gribi Gribi.Gen

def idOf : Server.FlushElec → Option U128
  | .id e => some e
  | _ => none

/-- a FlushRequest as the getters show it -/
def reqOf (ni : Server.NiSel) (el : Server.FlushElec) : FlushRequest :=
  { NetworkInstance := (match ni with | .unset => none | .all => some .All | .name n => some (.Name n)),
    Override := if el = .override then some () else none,
    Id := idOf el }

/-- `Server.checkFlushRequest` = the model's decision table `checkFlush`, for every instance
selector, election field and election state. -/
theorem gen_checkFlush (cur : Option U128) (ni : Server.NiSel) (el : Server.FlushElec) :
    Gen.checkFlushRequest (some (reqOf ni el)) cur = (Server.checkFlush cur ni el).map fstatusOf := by
  cases ni with
  | unset => rfl
  | all | name n =>
    cases el with
    | override => rfl
    | unset => cases cur <;> rfl
    | id e =>
      cases cur with
      | none => rfl
      | some c =>
        simp only [Gen.checkFlushRequest, Server.checkFlush, reqOf, idOf, u128_eta, equals_iff, eq_comm (a := u128 0 0),
          ← isZero_iff, cmp_neg, reduceCtorEq, if_false, apply_ite (Option.map fstatusOf)]
        rfl

def targets (s : Server) : Server.NiSel → List String
  | .all => s.rib.nis
  | .name n => [n]
  | .unset => []

/-- `Server.Flush` composed with `checkFlushRequest` = the model's `Server.flush`, for every
request and server state: a request the decision table rejects is answered with that status and
**the RIB is not called**; a named instance the RIB does not know is answered InvalidArgument /
INVALID_NETWORK_INSTANCE without a RIB call; otherwise the RIB's Flush is called once, with exactly
the named instance, or with all the instances the RIB knows, and the answer is OK. -/
theorem gen_flush (s : Server) (ni : Server.NiSel) (el : Server.FlushElec) (niR : Option Unit) :
    Gen.flush (some (reqOf ni el)) (Gen.checkFlushRequest (some (reqOf ni el)) s.curElec)
        s.rib.nis niR (fun n => s.rib.hasNI n) none =
      let res := (s.flush ni el).2.1
      if res.code = .ok then (some .OK, none, [Eff.flush (targets s ni)])
      else (none, some (fstatusOf res), []) := by
  rw [gen_checkFlush]
  unfold Server.flush
  cases hc : Server.checkFlush s.curElec ni el with
  | some r => simp only [Gen.flush, Option.map_some, if_neg (Server.checkFlush_code hc)]
  | none =>
    cases ni with
    | unset => cases hc
    | all => rfl
    | name n => cases hk : s.rib.hasNI n <;> simp only [Gen.flush, reqOf, Option.map_none, Option.bind_some, hk] <;> rfl

/-- an error of the RIB's Flush is reported as Internal (stated for the request "all instances,
override") -/
theorem gen_flush_internal (s : Server) (niR : Option Unit) (e : Status) :
    Gen.flush (some (reqOf .all .override)) none s.rib.nis niR (fun n => s.rib.hasNI n) (some e) =
      (none, some ⟨.Internal, .none⟩, [Eff.flush s.rib.nis]) := rfl

theorem gen_flush_translated : Gen.flush_problem = none := rfl

theorem gen_checkFlush_translated : Gen.checkFlushRequest_problem = none := rfl

end Gribi.GenEquiv
