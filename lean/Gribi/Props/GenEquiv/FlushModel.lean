/-
`rib.Flush` against the model, for the group counters. `RibFlush.flush_unref_count` counts the
`decNHGRefCount` calls the code makes; here those calls are applied to the model's counter map
(`RibRef.applyEffs`) with the tables read from the model's own entries, and the result is compared
with what the model's `flushNI` leaves: for every group of every instance the two counters are
equal — whatever the order in which the code walks its tables and the model its entries (`dec`
stops at zero, so the counter after any sequence of decrements is the counter before minus their
number, truncated). This is the clause "leaves deletion protection consistent with what remains"
of C08, on the code's own calls.
-/
import Gribi.Props.GenEquiv.RibFlush
import Gribi.Props.GenEquiv.RibRef
import Gribi.Lemmas.RefInv
namespace Gribi.GenEquiv.FlushModel
open Gribi Gribi.Gen Gribi.GenEquiv.RibRef Gribi.GenEquiv.RibFlush

/-- applying a list of calls to the model changes the counter of group `k` by the number of
`decNHGRefCount(k)` among them, when no call in the list increments a group counter -/
theorem cnt_applyEffs (k : Rib.CKey) : ∀ (l : List Eff) (s : Rib), (∀ e ∈ l, ∀ ni id, e ≠ Eff.incNHGRef ni id) →
    Rib.cnt (applyEffs s l).nhgRef k = Rib.cnt s.nhgRef k - l.count (Eff.decNHGRef k.1 k.2) := by
  obtain ⟨kn, kg⟩ := k
  intro l
  induction l with
  | nil => intro s _; rfl
  | cons e t ih =>
    intro s h
    have he := h e (.head _)
    rw [applyEffs, List.foldl_cons, ← applyEffs, ih _ fun e he => h e (.tail _ he), List.count_cons]
    -- only `decNHGRef` and `incNHGRef` touch the group counters, and the latter is excluded
    fun_cases applyEff s e with
    | case1 ni id => exact absurd rfl (he ni id)
    | case2 ni id =>
      rw [Rib.cnt_dec]
      by_cases hk : (kn, kg) = (ni, id)
      · cases hk; rw [if_pos rfl, if_pos (beq_self_eq_true _), Nat.sub_sub, Nat.add_comm]
      · have : ¬ (ni = kn ∧ id = kg) := fun ⟨a, b⟩ => hk (by rw [a, b])
        simp [hk, this]
    | case3 | case4 => rfl
    | case5 _ _ h2 _ _ => rw [beq_false_of_ne (h2 kn kg)]; rfl

/-- the model's flush of one instance changes the counter of group `k` by the number of the
instance's IPv4, IPv6 and MPLS entries that point at it (in an instance the RIB has) -/
theorem cnt_unref_fold (ni : NI) (k : Rib.CKey) : ∀ (l : List (EKey × Payload)) (s : Rib),
    Rib.cnt (l.foldl (fun s e => Rib.unref s ni e.1.2 e.2) s).nhgRef k =
      Rib.cnt s.nhgRef k -
        l.countP (fun e => e.1.2.isTop && s.hasNI (Rib.tgtNI ni e.2) && decide ((Rib.tgtNI ni e.2, e.2.grp) = k)) :=
  Rib.cnt_foldl_unref_nhg ni k

/-- the tables of an instance as `Flush` ranges over them, read from the model's entries (`tblV6`,
`tblM` likewise) -/
def tblV4 (s : Rib) (ni : String) : Map String OrigTop :=
  s.ents.filterMap (fun e => if e.1.1 = ni then match e.1.2 with | .v4 p => some (p, origTopOf e.2) | _ => none else none)
def tblV6 (s : Rib) (ni : String) : Map String OrigTop :=
  s.ents.filterMap (fun e => if e.1.1 = ni then match e.1.2 with | .v6 p => some (p, origTopOf e.2) | _ => none else none)
def tblM (s : Rib) (ni : String) : Map Nat OrigTop :=
  s.ents.filterMap (fun e => if e.1.1 = ni then match e.1.2 with | .mpls l => some (l, origTopOf e.2) | _ => none else none)

/-- the code's test "this entry holds a reference on `k` that is given back" is the model's -/
theorem holdsRef_model {κ : Type} (s : Rib) (ni : NI) (hni : s.hasNI ni = true) (k : Rib.CKey) (key : κ) (pl : Payload) :
    holdsRef refNameM (refErrM s) ni k.1 k.2 (key, origTopOf pl) =
      (s.hasNI (Rib.tgtNI ni pl) && decide ((Rib.tgtNI ni pl, pl.grp) = k)) := by
  rcases k with ⟨t, g⟩
  rw [Bool.eq_iff_iff]
  unfold holdsRef refNameM refErrM origTopOf Rib.tgtNI
  by_cases hg : pl.grpNI = ""
  · simp [hg, hni, Prod.ext_iff]
  · by_cases hh : s.hasNI pl.grpNI = true
    · simp [hg, hh, Prod.ext_iff]
    · simp [hg, hh, Prod.ext_iff]

/-- three predicates of which at most one holds, exactly when `q` does, count what `q` counts -/
theorem countP_add3 {α : Type} (p1 p2 p3 q : α → Bool)
    (h : ∀ a, (p1 a).toNat + (p2 a).toNat + (p3 a).toNat = (q a).toNat) :
    ∀ l : List α, l.countP p1 + l.countP p2 + l.countP p3 = l.countP q
  | [] => rfl
  | a :: t => by
    have ha := h a
    have ih := countP_add3 p1 p2 p3 q h t
    have e : ∀ b : Bool, (if b = true then 1 else 0) = b.toNat := fun b => by cases b <;> rfl
    simp only [List.countP_cons, e]
    omega

/-- the references the code's flush gives back on group `k` are the ones the model's does -/
theorem referrers_agree (s : Rib) (ni : NI) (hni : s.hasNI ni = true) (k : Rib.CKey) :
    (tblV4 s ni).countP (holdsRef refNameM (refErrM s) ni k.1 k.2) +
    (tblV6 s ni).countP (holdsRef refNameM (refErrM s) ni k.1 k.2) +
    (tblM s ni).countP (holdsRef refNameM (refErrM s) ni k.1 k.2) =
      (s.entsOf ni).countP (fun e => e.1.2.isTop && s.hasNI (Rib.tgtNI ni e.2) && decide ((Rib.tgtNI ni e.2, e.2.grp) = k)) := by
  unfold tblV4 tblV6 tblM Rib.entsOf
  rw [List.countP_filterMap, List.countP_filterMap, List.countP_filterMap, List.countP_filter]
  -- entry by entry: an entry of another instance counts nowhere, one of `ni` in the table of its kind
  refine countP_add3 _ _ _ _ (fun e => ?_) s.ents
  by_cases hn : e.1.1 = ni
  · cases hk : e.1.2 <;> simp [hn, Key.isTop, holdsRef_model s ni hni k]
  · have hn' : (e.1.1 == ni) = false := by simpa using hn
    simp [hn, hn']

/-- **the group counters after the code's flush of an instance are the model's**: applying the
calls `Flush` makes for an instance `ni` the RIB has (with the tables read from the model's entries)
to the model's counters leaves, for every group `k`, the counter that the model's `flushNI` leaves -/
theorem flush_counters_model (s : Rib) (ni : NI) (hni : s.hasNI ni = true)
    (nhgs nhgsRest : String → Map Nat FlNHG) (nhs : String → Map Nat Unit) (k : Rib.CKey) :
    Rib.cnt (applyEffs s (niEffs (tblV4 s) (tblV6 s) (tblM s) nhgs nhgsRest nhs refNameM (refErrM s) ni)).nhgRef k =
      Rib.cnt (s.flushNI ni).1.nhgRef k := by
  have hno : ∀ e ∈ niEffs (tblV4 s) (tblV6 s) (tblM s) nhgs nhgsRest nhs refNameM (refErrM s) ni,
      ∀ n id, e ≠ Eff.incNHGRef n id := by
    intro e he n id hx
    rcases niEffs_shape _ _ _ _ _ _ _ _ ni e he with ⟨_, _, h⟩ | h <;> subst hx <;> cases h
  rw [cnt_applyEffs k _ s hno, flush_unref_count, referrers_agree s ni hni k]
  exact (cnt_unref_fold ni k _ s).symm

end Gribi.GenEquiv.FlushModel
