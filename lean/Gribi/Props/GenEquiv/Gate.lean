/-
`checkElectionForModify` (server/server.go) against the model's `Server.gate`; `SnapRel`: how the
election record the Go function is given relates to the model's snapshot.
-/
import Gribi.Gen.CheckElectionForModify
import Gribi.Props.GenEquiv.Base
namespace Gribi.GenEquiv
open Gribi Gribi.Gen

/-- the three outcomes of the gate as the Go function returns them: (response, proceed, error) -/
def gateOut (opID : Nat) : Server.Gate → Option MResp × Bool × Option Status
  | .proceed => (none, true, none)
  | .failed => (some (.results [(opID, .FAILED)]), false, none)
  | .fatal t => (none, false, some (statusOf t))

/-- how the model's election snapshot (sessions are numbers, "no primary" is `none`) is seen by
the Go code (sessions are non-empty strings, "no primary" is the empty string) -/
structure SnapRel (c : Nat) (snap : Server.ElecSnap) (ed : ElectionDetails) : Prop where
  id : ed.ID = snap.cur
  latest : ed.clientLatest = snap.clientLatest
  noMaster : snap.master = none ↔ ed.master = ""
  isMaster : ∀ m, snap.master = some m → (c = m ↔ ed.client = ed.master)

/-- `server.checkElectionForModify` = the model's `gate`, for every operation stamp, every
election state and every session. -/
theorem gen_gate (opID c : Nat) (oe : Option U128) (snap : Server.ElecSnap) (ed : ElectionDetails)
    (h : SnapRel c snap ed) :
    Gen.checkElectionForModify opID oe (some ed) = gateOut opID (Server.gate c oe snap) := by
  cases oe with
  | none => rfl
  | some o =>
    obtain ⟨m, cur, latest⟩ := snap
    obtain ⟨master, eid, client, cl⟩ := ed
    obtain ⟨hid, hlat, hnm, him⟩ := h
    cases hid; cases hlat
    cases m with
    | none => cases hnm.mp rfl; cases cur <;> rfl
    | some m =>
      have hne : ¬ master = "" := fun x => nomatch hnm.mpr x
      simp only [Gen.checkElectionForModify, hne, if_false]
      cases cur with
      | none => rfl
      | some cur =>
        cases latest with
        | none => rfl
        | some latest =>
          -- with the code's tests on `Cmp` rewritten into the model's, both sides ask the same four
          -- questions of the inputs, possibly in another order: the proof goes by the answers
          simp only [Server.gate, u128_eta, ne_eq, cmp_eq_zero, cmp_pos, cmp_neg, gt_iff_lt, ← him m rfl]
          by_cases h1 : c = m
          · by_cases h2 : o = latest
            · subst h2
              rcases U128.lt_trichotomy o cur with ⟨h3, h4⟩ | rfl | ⟨h3, h4⟩ <;>
                simp [*, U128.lt_irrefl, gateOut, statusOf, codeOf, detOf]
            · simp [h1, h2, gateOut]
          · simp [h1, gateOut]

/-- a missing election record is an Internal error (the model has no such state: `doModify`
always passes a record) -/
theorem gen_gate_nil (opID : Nat) (o : U128) :
    Gen.checkElectionForModify opID (some o) none = (none, false, some ⟨.Internal, .none⟩) := rfl

theorem gen_gate_translated : Gen.checkElectionForModify_problem = none := rfl

end Gribi.GenEquiv
