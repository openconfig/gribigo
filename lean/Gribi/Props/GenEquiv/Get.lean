/-
`Server.doGet` (server/server.go: request validation and fan-out of the Get RPC) against the
model's `Server.get`.

`doGet` reports errors by sending them to the RPC handler (`errCh <- e`), which ends the RPC
with the first one it receives; each `GetRIB(filter, …)` call streams the entries of one
network instance. Both are recorded, in order, as effects.
-/
import Gribi.Gen.DoGet
import Gribi.GenPrelude
import Gribi.Model.Server
namespace Gribi.GenEquiv
open Gribi Gribi.Gen

/-- the AFT types `doGet` serves, by wire number -/
def supportedAft (a : Nat) : Bool := a == 1 || a == 2 || a == 3 || a == 4 || a == 5 || a == 6

/-- the model's reading of the wire number (the driver's `getAftOf`) -/
def aftOf (n : Nat) : Server.GetAft :=
  match n with
  | 1 => .sel .all | 2 => .sel .v4 | 3 => .sel .v6 | 4 => .sel .mpls | 5 => .sel .nh | 6 => .sel .nhg
  | _ => .other

theorem supported_iff (a : Nat) : supportedAft a = false ↔ aftOf a = .other :=
  match a with
  | 0 | 1 | 2 | 3 | 4 | 5 | 6 => by decide
  | _+7 => ⟨fun _ => rfl, fun _ => rfl⟩

/-- what the loop over the selected instances does when `GetRIB` itself does not fail -/
def getLoop (niKnown : String → Bool) (filter : List Nat) : List String → List Eff
  | [] => []
  | n :: rest =>
    if niKnown n then Eff.getRIB n filter :: getLoop niKnown filter rest
    else [Eff.sendErr (some ⟨.InvalidArgument, .none⟩)]

/-- `doGet` holds six copies of its walk over the instances (one per way of selecting them, each
with and without a supported table). Any `w` with the walk's two equations is `getLoop`, and each
copy has them by `rfl`. -/
theorem getLoop_unique (k : String → Bool) (f : List Nat) (w : List String → List Eff → List Eff)
    (hnil : ∀ e, w [] e = e)
    (hcons : ∀ x xs e, w (x :: xs) e =
      if k x = true then w xs (e ++ [Eff.getRIB x f]) else e ++ [Eff.sendErr (some ⟨.InvalidArgument, .none⟩)]) :
    ∀ l e, w l e = e ++ getLoop k f l := by
  intro l
  induction l with
  | nil => intro e; simp [hnil, getLoop]
  | cons x xs ih => intro e; rw [hcons]; cases h : k x <;> simp [ih, getLoop, h]

theorem loop1_spec (k : String → Bool) (f : List Nat) (v : Nat) (l : List String) (e : List Eff) :
    doGet.loop1 k (fun _ => none) f v l e = e ++ getLoop k (v :: f) l :=
  getLoop_unique k _ _ (fun _ => rfl) (fun _ _ _ => rfl) l e
theorem loop2_spec (k : String → Bool) (f : List Nat) (l : List String) (e : List Eff) :
    doGet.loop2 k (fun _ => none) f l e = e ++ getLoop k f l :=
  getLoop_unique k _ _ (fun _ => rfl) (fun _ _ _ => rfl) l e
theorem loop3_spec (k : String → Bool) (f : List Nat) (v : Nat) (l : List String) (e : List Eff) :
    doGet.loop3 k (fun _ => none) f v l e = e ++ getLoop k (v :: f) l :=
  getLoop_unique k _ _ (fun _ => rfl) (fun _ _ _ => rfl) l e
theorem loop4_spec (k : String → Bool) (f : List Nat) (l : List String) (e : List Eff) :
    doGet.loop4 k (fun _ => none) f l e = e ++ getLoop k f l :=
  getLoop_unique k _ _ (fun _ => rfl) (fun _ _ _ => rfl) l e
theorem loop5_spec (k : String → Bool) (f : List Nat) (v : Nat) (l : List String) (e : List Eff) :
    doGet.loop5 k (fun _ => none) f v l e = e ++ getLoop k (v :: f) l :=
  getLoop_unique k _ _ (fun _ => rfl) (fun _ _ _ => rfl) l e
theorem loop6_spec (k : String → Bool) (f : List Nat) (l : List String) (e : List Eff) :
    doGet.loop6 k (fun _ => none) f l e = e ++ getLoop k f l :=
  getLoop_unique k _ _ (fun _ => rfl) (fun _ _ _ => rfl) l e

def greqOf (ni : Server.NiSel) (aft : Nat) : GetRequestG :=
  { NetworkInstance := (match ni with | .unset => none | .all => some .All | .name n => some (.Name n)), Aft := aft }

def getTargets (s : Server) : Server.NiSel → List String
  | .all => s.rib.nis
  | .name n => [n]
  | .unset => []

/-- `doGet`, for every request and server state (with a `GetRIB` that does not fail): the empty
instance name is rejected before anything is streamed; an unsupported AFT type is reported first;
then the selected instances — the named one, or all the RIB knows, or none — are streamed in order
with the filter holding exactly the requested type, an unknown instance ending the walk with
InvalidArgument. -/
theorem gen_doGet (s : Server) (ni : Server.NiSel) (aft : Nat) :
    Gen.doGet (some (greqOf ni aft)) s.rib.nis (fun n => s.rib.hasNI n) (fun _ => none) =
      if ni = .name "" then [Eff.sendErr (some ⟨.InvalidArgument, .none⟩)]
      else if supportedAft aft then getLoop (fun n => s.rib.hasNI n) [aft] (getTargets s ni)
      else Eff.sendErr (some ⟨.Unimplemented, .none⟩) :: getLoop (fun n => s.rib.hasNI n) [] (getTargets s ni) := by
  -- the code's list of the types it serves, sorted (`or_comm`, `or_left_comm`: it may list them in any order)
  have hs : (aft = AFTType_ALL ∨ aft = AFTType_IPV4 ∨ aft = AFTType_IPV6 ∨ aft = AFTType_MPLS ∨ aft = AFTType_NEXTHOP ∨
      aft = AFTType_NEXTHOP_GROUP) ↔ supportedAft aft = true := by
    simp only [AFTType_ALL, AFTType_IPV4, AFTType_NEXTHOP, AFTType_NEXTHOP_GROUP, AFTType_MPLS, AFTType_IPV6,
      supportedAft, Bool.or_eq_true, beq_iff_eq]
    exact Iff.of_eq (by ac_rfl)
  simp only [Gen.doGet, greqOf, or_comm, or_left_comm, hs, loop1_spec, loop2_spec, loop3_spec, loop4_spec, loop5_spec,
    loop6_spec, List.nil_append]
  cases ni with
  | unset => cases supportedAft aft <;> rfl
  | all => cases supportedAft aft <;> rfl
  | name n =>
    -- by whether the name is empty (an inequality both ways round: the code may write its test either way)
    by_cases hn : n = ""
    · subst hn; cases supportedAft aft <;> rfl
    · have := Ne.symm hn
      cases supportedAft aft <;> simp [*, getTargets]

def isErr : Eff → Bool
  | .sendErr _ => true
  | _ => false

theorem getLoop_all_known (k : String → Bool) (f : List Nat) : ∀ (l : List String), (∀ n ∈ l, k n = true) →
    getLoop k f l = l.map (fun n => Eff.getRIB n f) := by
  intro l
  induction l with
  | nil => intro _; rfl
  | cons x xs ih =>
    intro h
    simp [getLoop, h x (List.mem_cons_self ..), ih (fun n hn => h n (List.mem_cons_of_mem _ hn))]

/-- … and that is the model's `Server.get`: the RPC fails exactly when the model says so, and
otherwise `GetRIB` is called, with the filter holding exactly the requested table, once for each
instance the model collects entries from. -/
theorem gen_doGet_model (s : Server) (ni : Server.NiSel) (aft : Nat) :
    let effs := Gen.doGet (some (greqOf ni aft)) s.rib.nis (fun n => s.rib.hasNI n) (fun _ => none)
    (effs.any isErr = false ↔ (s.get ni (aftOf aft)).isSome = true) ∧
    ((s.get ni (aftOf aft)).isSome = true → effs = (getTargets s ni).map (fun n => Eff.getRIB n [aft])) := by
  simp only [gen_doGet]
  cases hsup : supportedAft aft with
  | false =>
    have ho := (supported_iff aft).mp hsup
    by_cases hn : ni = .name "" <;> simp [hn, ho, Server.get, isErr]
  | true =>
    cases ha : aftOf aft with
    | other => rw [(supported_iff aft).mpr ha] at hsup; cases hsup
    | sel a =>
      cases ni with
      | unset => simp [getTargets, getLoop, Server.get]
      | all =>
        have hall : ∀ n ∈ s.rib.nis, s.rib.hasNI n = true := fun n hn => by simp [Rib.hasNI, hn]
        simp [getTargets, getLoop_all_known _ _ _ hall, Server.get, isErr, List.any_map, Function.comp_def]
      | name n =>
        by_cases hn : n = ""
        · simp [hn, Server.get, isErr]
        · cases hk : s.rib.hasNI n <;> simp [hn, getTargets, getLoop, hk, Server.get, isErr]

theorem gen_doGet_nil (known : List String) (k : String → Bool) (g : String → Option Status) :
    Gen.doGet none known k g = [Eff.sendErr (some ⟨.InvalidArgument, .none⟩)] := rfl

theorem gen_doGet_translated : Gen.doGet_problem = none := rfl

end Gribi.GenEquiv
