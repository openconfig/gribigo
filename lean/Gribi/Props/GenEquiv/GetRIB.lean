/-
`RIBHolder.GetRIB` (rib/rib.go): what one network instance contributes to a Get. The instance's
tables are read under its read lock (the translator checks that every read, conversion and send
happens while `r.mu` is held), the conversion of an installed entry to its protobuf is an oracle,
and so is each `select`: whether the reader has gone away when an entry is reached, and whether a
message is delivered. `gen_getRIB` says that for every filter, every content of the five tables and
every behaviour of the reader, `GetRIB` is one walk over the rows of the selected tables in the
order IPv4, IPv6, MPLS, next-hop-groups, next-hops: one message per entry, carrying the instance's
name and the entry under its own type, until the reader goes away or a conversion fails (the only
error).
-/
import Gribi.Gen.GetRIB
namespace Gribi.GenEquiv.GetRIB
open Gribi Gribi.Gen

/-- an installed entry as the walk meets it -/
structure Row where
  /-- the reader had gone away when the entry was reached -/
  stop : Bool
  /-- the entry could be converted to its protobuf -/
  conv : Bool
  /-- the message built for it -/
  msg : Option GetResponseG
  /-- the message was taken by the reader (it had not gone away) -/
  deliv : Bool

def Row.good (r : Row) : Bool := !r.stop && r.conv && r.deliv

/-- the walk: `Sum.inl` = GetRIB returns (with this error), `Sum.inr` = the next table follows -/
def walkFrom : List Row → List Eff → (Option Status × List Eff) ⊕ List Eff
  | [], effs => Sum.inr effs
  | r :: t, effs =>
    if r.stop then Sum.inl (none, effs)
    else if !r.conv then Sum.inl (some ⟨GCode.Internal, Details.none⟩, effs)
    else if r.deliv then walkFrom t (effs ++ [Eff.getEmit r.msg])
    else Sum.inl (none, effs)

def finish : (Option Status × List Eff) ⊕ List Eff → Option Status × List Eff
  | Sum.inl r => r
  | Sum.inr effs => (none, effs)

theorem walkFrom_append (a b : List Row) : ∀ effs,
    walkFrom (a ++ b) effs = match walkFrom a effs with
      | Sum.inl r => Sum.inl r
      | Sum.inr effs' => walkFrom b effs' := by
  induction a with
  | nil => intro effs; rfl
  | cons r t ih =>
    intro effs
    obtain ⟨s, c, m, d⟩ := r
    cases s with
    | true => rfl
    | false => cases c with
      | false => rfl
      | true => cases d with
        | false => rfl
        | true => exact ih _

/-- the walk in closed form: the messages of the rows before the first one that is not good; an
error exactly when that row is a failed conversion the reader was still there for -/
theorem walkFrom_eq (rows : List Row) : ∀ effs,
    walkFrom rows effs =
      match rows.dropWhile Row.good with
      | [] => Sum.inr (effs ++ (rows.takeWhile Row.good).map (fun r => Eff.getEmit r.msg))
      | r :: _ => Sum.inl (if !r.stop && !r.conv then some ⟨GCode.Internal, Details.none⟩ else none,
                           effs ++ (rows.takeWhile Row.good).map (fun r => Eff.getEmit r.msg)) := by
  induction rows with
  | nil => intro effs; simp [walkFrom]
  | cons r t ih =>
    intro effs
    obtain ⟨s, c, m, d⟩ := r
    cases s with
    | true => simp [walkFrom, Row.good]
    | false => cases c with
      | false => simp [walkFrom, Row.good]
      | true => cases d with
        | false => simp [walkFrom, Row.good]
        | true => simp [walkFrom, Row.good, ih, List.append_assoc]

theorem dropWhile_all {α : Type} (p : α → Bool) : ∀ (l : List α), (∀ x ∈ l, p x = true) → l.dropWhile p = []
  | [], _ => rfl
  | a :: t, h => by
    rw [List.dropWhile_cons_of_pos (h a (.head _)), dropWhile_all p t fun x hx => h x (.tail _ hx)]

theorem takeWhile_all {α : Type} (p : α → Bool) (l : List α) (h : ∀ x ∈ l, p x = true) : l.takeWhile p = l := by
  have := List.takeWhile_append_dropWhile (p := p) (l := l)
  rwa [dropWhile_all p l h, List.append_nil] at this

section
variable (name : String) (delivered : Option GetResponseG → Bool)

def msgOf (k : GEntryKind) : Option GetResponseG := some ⟨[⟨name, some k⟩]⟩

def rowOf {κ α : Type} (stop : κ → Bool) (conv : Option TblEntry → Option α) (mk : Option α → GEntryKind)
    (e : κ × TblEntry) : Row :=
  { stop := stop e.1, conv := (conv (some e.2)).isSome, msg := msgOf name (mk (conv (some e.2))),
    deliv := delivered (msgOf name (mk (conv (some e.2)))) }

/-- the five loops of `GetRIB` are one loop: a function that treats the head of its list as
`walkFrom` treats the head's row, and goes on with the tail, is the walk over the rows -/
theorem walk_loop {ε : Type} {loop : List ε → List Eff → (Option Status × List Eff) ⊕ List Eff} (row : ε → Row)
    (nil : ∀ effs, loop [] effs = Sum.inr effs)
    (cons : ∀ e t effs, loop (e :: t) effs =
      if (row e).stop then Sum.inl (none, effs)
      else if !(row e).conv then Sum.inl (some ⟨GCode.Internal, Details.none⟩, effs)
      else if (row e).deliv then loop t (effs ++ [Eff.getEmit (row e).msg])
      else Sum.inl (none, effs)) :
    ∀ l effs, loop l effs = walkFrom (l.map row) effs
  | [], effs => nil effs
  | e :: t, effs => by rw [cons, List.map_cons, walkFrom, walk_loop row nil cons t]

theorem loop1_eq (convH : Option TblEntry → Option GIndex) (stopH : Nat → Bool) :
    ∀ (l : List (Nat × TblEntry)) (effs : List Eff),
      getRIB.join1.join2.join3.join4.join5.loop1 name convH delivered stopH l effs =
        walkFrom (l.map (rowOf name delivered stopH convH GEntryKind.NextHop)) effs :=
  walk_loop _ (fun _ => rfl) fun e _ _ => by
    rw [getRIB.join1.join2.join3.join4.join5.loop1]; unfold rowOf; cases convH (some e.2) <;> rfl

theorem loop2_eq (convG : Option TblEntry → Option GId) (stopG : Nat → Bool) :
    ∀ (l : List (Nat × TblEntry)) (effs : List Eff),
      getRIB.join1.join2.join3.join4.loop2 name convG delivered stopG l effs =
        walkFrom (l.map (rowOf name delivered stopG convG GEntryKind.NextHopGroup)) effs :=
  walk_loop _ (fun _ => rfl) fun e _ _ => by
    rw [getRIB.join1.join2.join3.join4.loop2]; unfold rowOf; cases convG (some e.2) <;> rfl

theorem loop3_eq (convM : Option TblEntry → Option GLabel) (stopM : Nat → Bool) :
    ∀ (l : List (Nat × TblEntry)) (effs : List Eff),
      getRIB.join1.join2.join3.loop3 name convM delivered stopM l effs =
        walkFrom (l.map (rowOf name delivered stopM convM GEntryKind.Mpls)) effs :=
  walk_loop _ (fun _ => rfl) fun e _ _ => by
    rw [getRIB.join1.join2.join3.loop3]; unfold rowOf; cases convM (some e.2) <;> rfl

theorem loop4_eq (conv6 : Option TblEntry → Option GPrefix) (stop6 : String → Bool) :
    ∀ (l : List (String × TblEntry)) (effs : List Eff),
      getRIB.join1.join2.loop4 name conv6 delivered stop6 l effs =
        walkFrom (l.map (rowOf name delivered stop6 conv6 GEntryKind.Ipv6)) effs :=
  walk_loop _ (fun _ => rfl) fun e _ _ => by
    rw [getRIB.join1.join2.loop4]; unfold rowOf; cases conv6 (some e.2) <;> rfl

theorem loop5_eq (conv4 : Option TblEntry → Option GPrefix) (stop4 : String → Bool) :
    ∀ (l : List (String × TblEntry)) (effs : List Eff),
      getRIB.join1.loop5 name conv4 delivered stop4 l effs =
        walkFrom (l.map (rowOf name delivered stop4 conv4 GEntryKind.Ipv4)) effs :=
  walk_loop _ (fun _ => rfl) fun e _ _ => by
    rw [getRIB.join1.loop5]; unfold rowOf; cases conv4 (some e.2) <;> rfl

variable (v4 v6 : Map String TblEntry) (mpls nhgs nhs : Map Nat TblEntry)
  (conv4 conv6 : Option TblEntry → Option GPrefix) (convM : Option TblEntry → Option GLabel)
  (convG : Option TblEntry → Option GId) (convH : Option TblEntry → Option GIndex)
  (stop4 stop6 : String → Bool) (stopM stopG stopH : Nat → Bool)

/-- the tables a filter selects: `ALL` stands for the five supported ones -/
def effective (filter : List Nat) : List Nat :=
  if filter.contains AFTType_ALL then [AFTType_IPV4, AFTType_MPLS, AFTType_NEXTHOP, AFTType_NEXTHOP_GROUP, AFTType_IPV6]
  else filter

/-- the rows of the selected tables, in the order `GetRIB` walks them -/
def rowsOf (f : List Nat) : List Row :=
  (if f.contains AFTType_IPV4 then v4.map (rowOf name delivered stop4 conv4 GEntryKind.Ipv4) else []) ++
  (if f.contains AFTType_IPV6 then v6.map (rowOf name delivered stop6 conv6 GEntryKind.Ipv6) else []) ++
  (if f.contains AFTType_MPLS then mpls.map (rowOf name delivered stopM convM GEntryKind.Mpls) else []) ++
  (if f.contains AFTType_NEXTHOP_GROUP then nhgs.map (rowOf name delivered stopG convG GEntryKind.NextHopGroup) else []) ++
  (if f.contains AFTType_NEXTHOP then nhs.map (rowOf name delivered stopH convH GEntryKind.NextHop) else [])

/-- one stage of `GetRIB`: the table is walked if the filter selects it, and `K` follows -/
theorem stage {κ : Type} {loop : List κ → List Eff → (Option Status × List Eff) ⊕ List Eff} {row : κ → Row}
    (hloop : ∀ l effs, loop l effs = walkFrom (l.map row) effs) (c : Bool) (tbl : List κ) (rest : List Row)
    (K : List Eff → Option Status × List Eff) (hK : ∀ effs, K effs = finish (walkFrom rest effs)) (effs : List Eff) :
    (if c = true then (match loop tbl effs with | Sum.inl r => r | Sum.inr e => K e) else K effs) =
      finish (walkFrom ((if c = true then tbl.map row else []) ++ rest) effs) := by
  cases c
  · exact hK effs
  · rw [if_pos rfl, if_pos rfl, walkFrom_append, hloop]
    cases walkFrom (tbl.map row) effs with
    | inl r => rfl
    | inr e => exact hK e

/-- **`GetRIB`** is the walk over the rows of the selected tables -/
theorem gen_getRIB (filter : List Nat) (c4e c6e cMe cGe cHe : Option TblEntry → Status) :
    Gen.getRIB filter name v4 v6 mpls nhgs nhs conv4 c4e conv6 c6e convM cMe convG cGe convH cHe delivered
        stop4 stop6 stopM stopG stopH =
      finish (walkFrom (rowsOf name delivered v4 v6 mpls nhgs nhs conv4 conv6 convM convG convH
        stop4 stop6 stopM stopG stopH (effective filter)) []) := by
  have key : ∀ f, getRIB.join1 name v4 v6 mpls nhgs nhs conv4 conv6 convM convG convH delivered
        stop4 stop6 stopM stopG stopH f [] =
      finish (walkFrom (rowsOf name delivered v4 v6 mpls nhgs nhs conv4 conv6 convM convG convH
        stop4 stop6 stopM stopG stopH f) []) := by
    intro f
    -- the five stages (the bodies of `join1` … `join5`, around `loop5` … `loop1`), the last innermost; `rowsOf`
    -- appends their rows in the same order
    refine (stage (loop5_eq name delivered conv4 stop4) _ _ _ _
      (stage (loop4_eq name delivered conv6 stop6) _ _ _ _
        (stage (loop3_eq name delivered convM stopM) _ _ _ _
          (stage (loop2_eq name delivered convG stopG) _ _ _ _
            (stage (loop1_eq name delivered convH stopH) _ _ [] _ (fun _ => rfl))))) []).trans ?_
    simp only [rowsOf, List.append_assoc, List.append_nil]
  unfold Gen.getRIB effective
  split <;> exact key _

/-- what `GetRIB` hands to the RPC is always a prefix of the selected rows' messages, in order:
nothing is invented, nothing is sent twice, and it is cut short only where the reader went away or
a conversion failed -/
theorem getRIB_emits (filter : List Nat) (c4e c6e cMe cGe cHe : Option TblEntry → Status) :
    (Gen.getRIB filter name v4 v6 mpls nhgs nhs conv4 c4e conv6 c6e convM cMe convG cGe convH cHe delivered
        stop4 stop6 stopM stopG stopH).2 =
      ((rowsOf name delivered v4 v6 mpls nhgs nhs conv4 conv6 convM convG convH
        stop4 stop6 stopM stopG stopH (effective filter)).takeWhile Row.good).map (fun r => Eff.getEmit r.msg) := by
  rw [gen_getRIB, walkFrom_eq]
  split <;> simp [finish]

/-- with a reader that stays and entries that convert, `GetRIB` succeeds and hands over exactly one
message per entry of every selected table (C07: complete and filtered) -/
theorem getRIB_complete (filter : List Nat) (c4e c6e cMe cGe cHe : Option TblEntry → Status)
    (hgood : ∀ r ∈ rowsOf name delivered v4 v6 mpls nhgs nhs conv4 conv6 convM convG convH
        stop4 stop6 stopM stopG stopH (effective filter), r.good = true) :
    Gen.getRIB filter name v4 v6 mpls nhgs nhs conv4 c4e conv6 c6e convM cMe convG cGe convH cHe delivered
        stop4 stop6 stopM stopG stopH =
      (none, (rowsOf name delivered v4 v6 mpls nhgs nhs conv4 conv6 convM convG convH
        stop4 stop6 stopM stopG stopH (effective filter)).map (fun r => Eff.getEmit r.msg)) := by
  rw [gen_getRIB, walkFrom_eq, dropWhile_all _ _ hgood, takeWhile_all _ _ hgood]
  simp [finish]

/-- the only error is a failed conversion met while the reader was still there -/
theorem getRIB_error (filter : List Nat) (c4e c6e cMe cGe cHe : Option TblEntry → Status) (e : Status)
    (h : (Gen.getRIB filter name v4 v6 mpls nhgs nhs conv4 c4e conv6 c6e convM cMe convG cGe convH cHe delivered
        stop4 stop6 stopM stopG stopH).1 = some e) :
    e = ⟨GCode.Internal, Details.none⟩ ∧
    ∃ r ∈ rowsOf name delivered v4 v6 mpls nhgs nhs conv4 conv6 convM convG convH
        stop4 stop6 stopM stopG stopH (effective filter), r.stop = false ∧ r.conv = false := by
  rw [gen_getRIB, walkFrom_eq] at h
  split at h
  · cases h
  · rename_i r t hd
    have hm := (List.dropWhile_sublist Row.good).subset (hd ▸ List.mem_cons_self ..)
    cases hs : r.stop <;> cases hc : r.conv <;> simp [finish, hs, hc] at h
    exact ⟨h.symm, r, hm, hs, hc⟩

/-- every message carries the instance's own name and exactly one entry -/
theorem row_msg {κ α : Type} (stop : κ → Bool) (conv : Option TblEntry → Option α) (mk : Option α → GEntryKind)
    (e : κ × TblEntry) :
    (rowOf name delivered stop conv mk e).msg = some ⟨[⟨name, some (mk (conv (some e.2)))⟩]⟩ := rfl

/-- a table that the filter does not select contributes no row: with a filter naming one type the
rows are that table's (shown for IPv4 and for next-hop-groups; `ALL` selects the five tables) -/
theorem rowsOf_ipv4 :
    rowsOf name delivered v4 v6 mpls nhgs nhs conv4 conv6 convM convG convH stop4 stop6 stopM stopG stopH
        (effective [AFTType_IPV4]) = v4.map (rowOf name delivered stop4 conv4 GEntryKind.Ipv4) := by
  simp [rowsOf, effective, AFTType_IPV4, AFTType_ALL, AFTType_IPV6, AFTType_MPLS, AFTType_NEXTHOP_GROUP, AFTType_NEXTHOP]

theorem rowsOf_nhg :
    rowsOf name delivered v4 v6 mpls nhgs nhs conv4 conv6 convM convG convH stop4 stop6 stopM stopG stopH
        (effective [AFTType_NEXTHOP_GROUP]) = nhgs.map (rowOf name delivered stopG convG GEntryKind.NextHopGroup) := by
  simp [rowsOf, effective, AFTType_IPV4, AFTType_ALL, AFTType_IPV6, AFTType_MPLS, AFTType_NEXTHOP_GROUP, AFTType_NEXTHOP]

theorem rowsOf_all :
    rowsOf name delivered v4 v6 mpls nhgs nhs conv4 conv6 convM convG convH stop4 stop6 stopM stopG stopH
        (effective [AFTType_ALL]) =
      v4.map (rowOf name delivered stop4 conv4 GEntryKind.Ipv4) ++ v6.map (rowOf name delivered stop6 conv6 GEntryKind.Ipv6) ++
      mpls.map (rowOf name delivered stopM convM GEntryKind.Mpls) ++
      nhgs.map (rowOf name delivered stopG convG GEntryKind.NextHopGroup) ++
      nhs.map (rowOf name delivered stopH convH GEntryKind.NextHop) := rfl
end

theorem gen_getrib_translated : Gen.getRIB_problem = none := rfl

/-- non-vacuity: two prefixes and a group; the reader leaves before the second prefix -/
example :
    Gen.getRIB [AFTType_ALL] "DEFAULT" [("1.0.0.0/8", ⟨[]⟩), ("2.0.0.0/8", ⟨[]⟩)] [] [] [(7, ⟨[]⟩)] []
      (fun _ => some ⟨"p"⟩) default (fun _ => none) default (fun _ => none) default (fun _ => some ⟨7⟩) default
      (fun _ => none) default (fun _ => true) (fun k => k == "2.0.0.0/8") (fun _ => false) (fun _ => false)
      (fun _ => false) (fun _ => false) =
    (none, [Eff.getEmit (some ⟨[⟨"DEFAULT", some (.Ipv4 (some ⟨"p"⟩))⟩]⟩)]) := rfl

end Gribi.GenEquiv.GetRIB
