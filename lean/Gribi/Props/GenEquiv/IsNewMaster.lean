/-
`isNewMaster` (server/server.go) against the model's `Server.isNewMaster`.
-/
import Gribi.Gen.IsNewMaster
import Gribi.Props.GenEquiv.Base
namespace Gribi.GenEquiv
open Gribi Gribi.Gen

/-- `server.isNewMaster` wins exactly when the model says so, reports "same id" exactly for an
equal id, and never returns an error. -/
theorem gen_isNewMaster (cand : U128) (exist : Option U128) :
    Gen.isNewMaster cand exist = (Server.isNewMaster cand exist, decide (exist = some cand), none) := by
  cases exist with
  | none => rfl
  | some e =>
    have hle : Server.isNewMaster cand (some e) = decide (e.toNat ≤ cand.toNat) := by
      rw [Server.isNewMaster, Bool.eq_iff_iff, U128.le_iff, decide_eq_true_eq]
    rw [hle]
    simp only [Gen.isNewMaster, u128_eta]
    rcases cmp_cases cand e with ⟨h, h'⟩ | ⟨h, h'⟩ | ⟨h, h'⟩
    · have : e ≠ cand := by rintro rfl; omega
      simp [h, this]; omega
    · subst h'; simp [h]
    · have : e ≠ cand := by rintro rfl; omega
      simp [h, this]; omega

theorem gen_isNewMaster_translated : Gen.isNewMaster_problem = none := rfl

end Gribi.GenEquiv
