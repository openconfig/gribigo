/-
The local loops of the generated definitions. The translator turns a Go `for … range` into a local
function `loopN : List α → state … → result` by structural recursion on the list, so every such loop
satisfies two equations (Lean proves them as `loopN.eq_1`, `loopN.eq_2`; for a loop compiled by
structural recursion they also hold by `rfl`, for one that calls a join point, which Lean compiles
by well-founded recursion, only the equation lemmas do). A loop that
threads a state to the end of the list is therefore a left fold followed by whatever comes after
the loop (`loop_fold`); what the fold is for the usual bodies — appending to an accumulator, OR-ing
a test into a flag — is a fact about lists, and the lemmas for those bodies put the two together.
-/
namespace Gribi.GenEquiv

theorem loop_fold {α σ ρ : Type} {loop : List α → σ → ρ} {k : σ → ρ} {f : σ → α → σ}
    (nil : ∀ s, loop [] s = k s) (cons : ∀ x t s, loop (x :: t) s = loop t (f s x)) :
    ∀ l s, loop l s = k (l.foldl f s)
  | [], s => nil s
  | x :: t, s => (cons x t s).trans (loop_fold nil cons t (f s x))

theorem foldl_append_flatMap {α β : Type} (g : α → List β) (l : List α) (a : List β) :
    l.foldl (fun a x => a ++ g x) a = a ++ l.flatMap g := by
  rw [List.flatMap_eq_foldl, ← List.foldl_hom (a ++ ·) (g₂ := fun a x => a ++ g x) fun _ _ => List.append_assoc ..,
    List.append_nil]

theorem foldl_snoc_map {α β : Type} (f : α → β) (l : List α) (acc : List β) :
    l.foldl (fun acc x => acc ++ [f x]) acc = acc ++ l.map f :=
  List.map_eq_flatMap ▸ foldl_append_flatMap (fun x => [f x]) l acc

theorem foldl_or_any {α : Type} (p : α → Bool) : ∀ (l : List α) (b : Bool), l.foldl (fun b x => b || p x) b = (b || l.any p)
  | [], b => (Bool.or_false b).symm
  | x :: t, b => by rw [List.foldl_cons, foldl_or_any p t, List.any_cons, Bool.or_assoc]

theorem flatMap_toList {α β : Type} (f : α → Option β) (l : List α) :
    l.flatMap (fun x => (f x).toList) = l.filterMap f := by
  induction l with
  | nil => rfl
  | cons x t ih => cases h : f x <;> simp [h, ih]

theorem loop_append {α β ρ : Type} {loop : List α → List β → ρ} {k : List β → ρ} {g : α → List β}
    (nil : ∀ a, loop [] a = k a) (cons : ∀ x t a, loop (x :: t) a = loop t (a ++ g x)) (l : List α) (a : List β) :
    loop l a = k (a ++ l.flatMap g) := by
  rw [loop_fold nil cons, foldl_append_flatMap]

theorem loop_snoc {α β ρ : Type} {loop : List α → List β → ρ} {k : List β → ρ} {f : α → β}
    (nil : ∀ a, loop [] a = k a) (cons : ∀ x t a, loop (x :: t) a = loop t (a ++ [f x])) (l : List α) (a : List β) :
    loop l a = k (a ++ l.map f) :=
  List.map_eq_flatMap ▸ loop_append nil cons l a

/-- two accumulators: the translator's loops are curried, so this is `loop_fold`'s induction once more -/
theorem loop_append₂ {α β γ ρ : Type} {loop : List α → List β → List γ → ρ} {k : List β → List γ → ρ}
    {g : α → List β} {h : α → List γ} (nil : ∀ a b, loop [] a b = k a b)
    (cons : ∀ x t a b, loop (x :: t) a b = loop t (a ++ g x) (b ++ h x)) :
    ∀ l a b, loop l a b = k (a ++ l.flatMap g) (b ++ l.flatMap h)
  | [], a, b => by simpa using nil a b
  | x :: t, a, b => by
    rw [cons, loop_append₂ nil cons t, List.flatMap_cons, List.flatMap_cons, List.append_assoc, List.append_assoc]

theorem loop_any {α ρ : Type} {loop : List α → Bool → Sum ρ Bool} {p : α → Bool}
    (nil : ∀ b, loop [] b = .inr b) (cons : ∀ x t b, loop (x :: t) b = loop t (b || p x)) (l : List α) (b : Bool) :
    loop l b = .inr (b || l.any p) := by
  rw [loop_fold nil cons, foldl_or_any]

/-- no state is threaded (the result of the rest is what the loop returns), so this is not an
instance of `loop_fold` -/
theorem loop_all {α : Type} {loop : List α → Bool} {p : α → Bool} (nil : loop [] = true)
    (cons : ∀ x t, loop (x :: t) = (p x && loop t)) : ∀ l, loop l = l.all p
  | [] => nil
  | x :: t => by rw [cons, loop_all nil cons t, List.all_cons]

/-- `loop_all` in the shape the generated code has: an early exit with `k false`, `k true` at the end -/
theorem loop_all_exit {α ρ : Type} {loop : List α → ρ} {k : Bool → ρ} {p : α → Bool} (nil : loop [] = k true)
    (cons : ∀ x t, loop (x :: t) = if p x = true then loop t else k false) : ∀ l, loop l = k (l.all p)
  | [] => nil
  | x :: t => by rw [cons, loop_all_exit nil cons t, List.all_cons]; cases p x <;> rfl

theorem loop_all_ite {α : Type} {loop : List α → Bool} {p : α → Bool} (nil : loop [] = true)
    (cons : ∀ x t, loop (x :: t) = if p x = true then loop t else false) : ∀ l, loop l = l.all p :=
  loop_all_exit (k := id) nil cons

/-- `if b { found = true }` followed by the rest `k` of a loop, as the generated code writes it -/
theorem ite_found {β : Type} (k : Bool → β) (found b : Bool) :
    (if b = true then k true else k found) = k (found || b) := by
  cases b <;> cases found <;> rfl

end Gribi.GenEquiv
