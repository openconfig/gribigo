/-
`modifyEntry` (server/server.go) against the gate and the per-type branches of the model's
`Server.modifyOne`.
-/
import Gribi.Gen.ModifyEntry
import Gribi.Props.GenEquiv.Gate
import Gribi.Props.GenEquiv.Loop
namespace Gribi.GenEquiv
open Gribi Gribi.Gen

/-- an operation as `modifyEntry` looks at it: id, stamp and type only -/
def gop (op : Op) : AFTOperation :=
  { Id := op.id, ElectionId := op.elec,
    Op := match op.ty with | .invalid => 0 | .add => 1 | .replace => 2 | .delete => 3 }

def astOf : AftStatus → AftSt
  | .failed => .FAILED | .rib => .RIB_PROGRAMMED | .fib => .FIB_PROGRAMMED

/-- the model's `resultsOf` on bare ids -/
def resultsIds (fib : Bool) (oks fails : List Nat) : List (Nat × AftStatus) :=
  (oks.flatMap (fun id => if fib then [(id, .rib), (id, .fib)] else [(id, .rib)])) ++ fails.map (fun id => (id, .failed))

theorem resultsOf_ids (fib : Bool) (o : Rib.Out) :
    Server.resultsOf fib o = resultsIds fib (o.oks.map (·.id)) o.fails := by
  unfold Server.resultsOf resultsIds
  rw [List.flatMap_map]

def conv (x : Nat × AftStatus) : Nat × AftSt := (x.1, astOf x.2)

/-- the two loops of `modifyEntry` build the model's result list -/
theorem loops_eq (fib : Bool) (oks fails : List Nat) :
    (fails.map OpResult.mk).foldl (fun acc x => acc ++ [(x.ID, AftSt.FAILED)])
      ((oks.map OpResult.mk).foldl (fun acc x =>
        if fib = true then acc ++ [(x.ID, AftSt.RIB_PROGRAMMED)] ++ [(x.ID, AftSt.FIB_PROGRAMMED)]
        else acc ++ [(x.ID, AftSt.RIB_PROGRAMMED)]) [])
      = (resultsIds fib oks fails).map conv := by
  -- the second loop appends one FAILED per id; the first is a `flatMap` over the acknowledged ids
  rw [foldl_snoc_map (fun x : OpResult => (x.ID, AftSt.FAILED)), List.foldl_map, List.map_map, resultsIds,
    List.map_append, List.map_map, List.map_flatMap]
  cases fib
  · exact congrArg (· ++ _) ((foldl_append_flatMap _ oks []).trans (List.nil_append _))
  · simp only [if_true, List.append_assoc]
    exact congrArg (· ++ _) ((foldl_append_flatMap _ oks []).trans (List.nil_append _))

/-- the outcome of the RIB call as `modifyEntry` reports it -/
def ribOutcome (fib : Bool) (oks fails : List Nat) (err : Option Status) (eff : Eff) :
    Option MResp × Option Status × List Eff :=
  match err with
  | some _ => (none, some ⟨.Unimplemented, .modify .UNKNOWN⟩, [eff])
  | none => (some (.results ((resultsIds fib oks fails).map conv)), none, [eff])

section
variable (c : Nat) (snap : Server.ElecSnap) (ed : ElectionDetails) (h : SnapRel c snap ed)
  {fib : Bool} {ni : String} {niR : Option Unit} {oksA failsA oksD failsD : List Nat} {errA errD : Option Status}
include h

/-- `modifyEntry` on any operation as the Go code holds it (all its fields free): the gate on its
stamp, then the code's own test of the operation type -/
theorem gen_modifyEntry_op (o : AFTOperation) :
    Gen.modifyEntry (some ()) ni (some o) fib (some ed) niR true true
        (oksA.map OpResult.mk) (failsA.map OpResult.mk) errA (oksD.map OpResult.mk) (failsD.map OpResult.mk) errD =
      match Server.gate c o.ElectionId snap with
      | .fatal t => (none, some (statusOf t), [])
      | .failed => (some (.results [(o.Id, .FAILED)]), none, [])
      | .proceed =>
        if o.Op = AFTOperation_ADD ∨ o.Op = AFTOperation_REPLACE then
          ribOutcome fib oksA failsA errA (.addEntry ni (some o))
        else if o.Op = AFTOperation_DELETE then ribOutcome fib oksD failsD errD (.deleteEntry ni (some o))
        else (some (.results [(o.Id, .FAILED)]), none, []) := by
  simp only [Gen.modifyEntry, gen_gate o.Id c o.ElectionId snap ed h, loops_eq]
  obtain ⟨id, el, ty, _, _⟩ := o
  cases Server.gate c el snap with
  | fatal t => rfl
  | failed => rfl
  | proceed =>
    -- by the wire number of the type: 0, 1 and 2 (AddEntry), 3 (DeleteEntry), any other;
    -- only the error of the call made is read
    rcases ty with _ | _ | _ | _ | _
    · rfl
    · cases errA <;> rfl
    · cases errA <;> rfl
    · cases errD <;> rfl
    · rfl

/-- … on an `o` that carries the model operation's id, stamp and type: the code's test of the type
is the model's -/
theorem gen_modifyEntry_of (op : Op) (o : AFTOperation) (hid : o.Id = op.id) (he : o.ElectionId = op.elec)
    (hty : o.Op = (gop op).Op) :
    Gen.modifyEntry (some ()) ni (some o) fib (some ed) niR true true
        (oksA.map OpResult.mk) (failsA.map OpResult.mk) errA (oksD.map OpResult.mk) (failsD.map OpResult.mk) errD =
      match Server.gate c op.elec snap with
      | .fatal t => (none, some (statusOf t), [])
      | .failed => (some (.results [(op.id, .FAILED)]), none, [])
      | .proceed =>
        match op.ty with
        | .invalid => (some (.results [(op.id, .FAILED)]), none, [])
        | .delete => ribOutcome fib oksD failsD errD (.deleteEntry ni (some o))
        | _ => ribOutcome fib oksA failsA errA (.addEntry ni (some o)) := by
  rw [gen_modifyEntry_op c snap ed h, hid, he, hty]
  cases Server.gate c op.elec snap with
  | proceed => obtain ⟨_, ty, _, _, _, _, _⟩ := op; cases ty <;> rfl
  | _ => rfl

end

/-- `server.modifyEntry`, for every operation, election state, session
and every outcome of the RIB calls: the election gate is evaluated first and, unless it says
proceed, no RIB call is made (the effect list is empty) and the answer is the gate's; an
operation type other than ADD / REPLACE / DELETE is answered FAILED without a RIB call; else
exactly one RIB call is made (AddEntry for ADD and REPLACE, DeleteEntry for DELETE), a fatal
error of it ends the RPC with Unimplemented, and otherwise the response is the model's
`resultsOf`: RIB_PROGRAMMED for each acknowledged id, immediately followed by FIB_PROGRAMMED
for the same id when FIB acknowledgement was negotiated, then FAILED for each failed id. -/
theorem gen_modifyEntry (c : Nat) (snap : Server.ElecSnap) (ed : ElectionDetails) (h : SnapRel c snap ed)
    (op : Op) (fib : Bool) (ni : String) (niR : Option Unit)
    (oksA failsA oksD failsD : List Nat) (errA errD : Option Status) :
    Gen.modifyEntry (some ()) ni (some (gop op)) fib (some ed) niR true true
        (oksA.map OpResult.mk) (failsA.map OpResult.mk) errA (oksD.map OpResult.mk) (failsD.map OpResult.mk) errD =
      match Server.gate c op.elec snap with
      | .fatal t => (none, some (statusOf t), [])
      | .failed => (some (.results [(op.id, .FAILED)]), none, [])
      | .proceed =>
        match op.ty with
        | .invalid => (some (.results [(op.id, .FAILED)]), none, [])
        | .delete => ribOutcome fib oksD failsD errD (.deleteEntry ni (some (gop op)))
        | _ => ribOutcome fib oksA failsA errA (.addEntry ni (some (gop op))) :=
  gen_modifyEntry_of c snap ed h op (gop op) rfl rfl rfl

/-- a nil operation is an Internal error and no RIB call is made, whatever the other arguments -/
theorem gen_modifyEntry_internal (ni : String) (fib : Bool) (ed : Option ElectionDetails) (niR : Option Unit)
    (a b c d : List OpResult) (e f : Option Status) (niOk niValid : Bool) :
    Gen.modifyEntry (some ()) ni none fib ed niR niOk niValid a b e c d f = (none, some ⟨.Internal, .none⟩, []) := rfl

theorem gen_modifyEntry_translated : Gen.modifyEntry_problem = none := rfl

end Gribi.GenEquiv
