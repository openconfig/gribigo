/-
`Server.checkParams` (server/server.go) against the `checkParams` part of the model's
`Server.doParams`.
-/
import Gribi.Gen.CheckParams
import Gribi.Props.GenEquiv.Base
namespace Gribi.GenEquiv
open Gribi Gribi.Gen

/-- the part of the model's `doParams` that is `checkParams` (the rest is `updateParams`) -/
def checkParamsModel (gotMsg : Bool) (red pers : Nat) (consistent : Bool) : Option Term :=
  if gotMsg then some ⟨.failedPrecondition, .modifyNotAllowed⟩
  else if red == 0 && pers == 1 then some ⟨.failedPrecondition, .unsupportedParams⟩
  else if red != 1 then some ⟨.unimplemented, .unsupportedParams⟩
  else if pers != 1 then some ⟨.unimplemented, .unsupportedParams⟩
  else if consistent then none
  else some ⟨.failedPrecondition, .paramsDiffer⟩

def gparams (p : Params) : ClientParams := { Persist := p.persist, ExpectElecID := p.expectElec, FIBAck := p.fibAck }

theorem doParams_factors (s : Server) (c : Nat) (cs : Sess) (red pers ack : Nat) :
    Server.doParams s c cs red pers ack =
      match checkParamsModel cs.gotMsg red pers
          (s.sess.all (fun e => e.1 == c || e.2.params == Server.paramsOf red pers ack)) with
      | some t => (s, { term := some t })
      | none =>
        if cs.setParams then (s, { term := some ⟨.failedPrecondition, .modifyNotAllowed⟩ })
        else ({ s with sess := s.sess.insert c { cs with params := Server.paramsOf red pers ack, setParams := true, gotMsg := true } },
              { resps := [.paramsOk] }) := by
  unfold Server.doParams checkParamsModel
  cases cs.gotMsg with
  | true => rfl
  | false =>
    cases (red == 0 && pers == 1) with
    | true => rfl
    | false =>
      cases (red != 1) with
      | true => rfl
      | false =>
        cases (pers != 1) with
        | true => rfl
        | false =>
          simp only [Bool.false_eq_true, if_false]
          cases s.sess.all (fun e => e.1 == c || e.2.params == Server.paramsOf red pers ack) <;> rfl

/-- `Server.checkParams` with every oracle free. The translation of the Go test
`Redundancy == ALL_PRIMARY && Persistence == PRESERVE` is two nested `if`s with the rest of the
function repeated under each; here the tests stand in the model's order, once. -/
theorem gen_checkParams_all (id : String) (red pers ack : Nat) (gotMsg consistent : Bool) (consErr setErr : Option Status) :
    Gen.checkParams id (some ⟨red, pers, ack⟩) gotMsg consistent consErr setErr =
      let cp := gparams (Server.paramsOf red pers ack)
      match checkParamsModel gotMsg red pers true with
      | some t => (none, some (statusOf t), [])
      | none =>
        match consErr, consistent, setErr with
        | some _, _, _ => (none, some ⟨.Internal, .none⟩, [Eff.checkClientsConsistent id (some cp)])
        | none, false, _ =>
          (none, some ⟨.FailedPrecondition, .modify .PARAMS_DIFFER_FROM_OTHER_CLIENTS⟩, [Eff.checkClientsConsistent id (some cp)])
        | none, true, some _ =>
          (none, some ⟨.Internal, .none⟩, [Eff.checkClientsConsistent id (some cp), Eff.setClientParams id (some cp)])
        | none, true, none =>
          (some .paramsOk, none, [Eff.checkClientsConsistent id (some cp), Eff.setClientParams id (some cp)]) := by
  cases gotMsg with
  | true => rfl
  | false =>
    -- the tests tell 0, 1 and the other values of the two enumerations apart, and nothing else:
    -- redundancy 0, 1, other, and under each the persistence
    rcases red with _ | _ | _
    · rcases pers with _ | _ | _ <;> rfl
    · rcases pers with _ | _ | _
      · rfl
      · cases consErr with
        | some _ => rfl
        | none =>
          cases consistent with
          | false => rfl
          | true => cases setErr <;> rfl
      · rfl
    · rcases pers with _ | _ | _ <;> rfl

/-- `Server.checkParams`: which status it returns, that it answers OK
exactly when the model accepts, and that the parameters it checks for consistency and stores
are the model's `paramsOf` — for every wire value of the three enumerations. -/
theorem gen_checkParams (id : String) (red pers ack : Nat) (gotMsg consistent : Bool) :
    Gen.checkParams id (some ⟨red, pers, ack⟩) gotMsg consistent none none =
      match checkParamsModel gotMsg red pers consistent with
      | some t =>
        (none, some (statusOf t),
          if t.reason = .paramsDiffer then [Eff.checkClientsConsistent id (some (gparams (Server.paramsOf red pers ack)))] else [])
      | none =>
        (some .paramsOk, none,
          [Eff.checkClientsConsistent id (some (gparams (Server.paramsOf red pers ack))),
           Eff.setClientParams id (some (gparams (Server.paramsOf red pers ack)))]) := by
  rw [gen_checkParams_all]
  unfold checkParamsModel
  cases gotMsg with
  | true => rfl
  | false =>
    cases (red == 0 && pers == 1) with
    | true => rfl
    | false =>
      cases (red != 1) with
      | true => rfl
      | false =>
        cases (pers != 1) with
        | true => rfl
        | false => cases consistent <;> rfl

/-- when the consistency check itself fails, the call does not succeed, whatever the store does (with
which status: `gen_checkParams_all` — Internal, once the parameters have passed the tests before it) -/
theorem gen_checkParams_internal (id : String) (p : SessionParameters) (consistent : Bool) (e : Status)
    (se : Option Status) :
    (Gen.checkParams id (some p) false consistent (some e) se).2.1 = some ⟨.Internal, .none⟩ ∨
    (Gen.checkParams id (some p) false consistent (some e) se).2.1 ≠ none := by
  right
  rw [gen_checkParams_all]
  simp only
  split <;> simp

theorem gen_checkParams_translated : Gen.checkParams_problem = none := rfl

end Gribi.GenEquiv
