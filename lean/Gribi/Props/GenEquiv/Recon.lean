/-
The tie by translation, the reconciler's `diff` (rib/reconciler/reconcile.go).

`diff` walks the union of the network instances of both RIBs and, per instance, ten loops over
ygot maps (five that emit ADD / REPLACE for intended entries the target lacks or holds differently,
five that emit DELETE for entries only the target has), appending to nine buckets and drawing ids
from an atomic counter. The generated definition has 13 local loops and 13 join points; the
theorem says it equals a fold of `niStep`, ten simple passes per instance, for every pair of
contents, every `reflect.DeepEqual`, every explicit-replace set and every order of the contents
maps and of their tables. The set of instances to walk, a local `map[string]bool` that Go ranges
over in an order of its own, is translated as the list of its insertions (`nisOf`): that order is
not quantified over. It is stated for operation builders (`v4Operation` …) that do not fail (they
convert an installed entry back to its protobuf).
-/
import Gribi.Gen.ReconDiff
import Gribi.Props.GenEquiv.Loop
namespace Gribi.GenEquiv.Recon
open Gribi Gribi.Gen

abbrev MK := Nat → String → Nat → Option ReconEnt → Option ReconOp
abbrev MK' := Nat → String → Nat → ReconEnt → ReconOp

/-- an ADD / REPLACE pass over one table of one instance: an intended entry the target lacks is an
ADD (into the Add bucket); one the target holds with a different payload is an ADD — a REPLACE when
explicit replaces were asked for that table — into the Replace bucket; equal ones emit nothing.
Each emitted operation takes the next id. -/
def addPass (mk : MK') (deepEq : Option ReconEnt → Option ReconEnt → Bool) (expl : Bool) (ni : String)
    (dst : List ReconEnt) (same : ReconEnt → ReconEnt → Bool) :
    List ReconEnt → Nat → List ReconOp → List ReconOp → Nat × List ReconOp × List ReconOp
  | [], id, rep, add => (id, rep, add)
  | e :: t, id, rep, add =>
    match dst.find? (same e) with
    | none => addPass mk deepEq expl ni dst same t (id + 1) rep (add ++ [mk AFTOperation_ADD ni (id + 1) e])
    | some d =>
      if deepEq (some e) (some d) then addPass mk deepEq expl ni dst same t id rep add
      else addPass mk deepEq expl ni dst same t (id + 1)
        (rep ++ [mk (if expl then AFTOperation_REPLACE else AFTOperation_ADD) ni (id + 1) e]) add

/-- a DELETE pass: an entry only the target has is a DELETE with the next id -/
def delPass (mk : MK') (ni : String) (src : List ReconEnt) (same : ReconEnt → ReconEnt → Bool) :
    List ReconEnt → Nat → List ReconOp → Nat × List ReconOp
  | [], id, del => (id, del)
  | e :: t, id, del =>
    match src.find? (same e) with
    | none => delPass mk ni src same t (id + 1) (del ++ [mk AFTOperation_DELETE ni (id + 1) e])
    | some _ => delPass mk ni src same t id del

def sameS (e : ReconEnt) : ReconEnt → Bool := fun x => decide (x.KeyS = e.KeyS)
def sameN (e : ReconEnt) : ReconEnt → Bool := fun x => decide (x.KeyN = e.KeyN)

abbrev Pass (ρ : Type) := Sum ρ (Nat × List ReconOp × List ReconOp)

/-- The five ADD / REPLACE loops of `diff` are one loop up to the table, its builder, the key
comparison and the explicit-replace flag: any `loop` that does what that loop does with an entry the
target lacks (`absent`: an ADD, filed under Add) and with one it has (`present`: nothing if the
payloads are equal, else an ADD or REPLACE filed under Replace) is `addPass`. Both are said by the
answers of these tests, not by the way the code nests them, and for a builder that does not fail
(`p op` is the operation it makes). -/
theorem addLoop_eq {ρ : Type} {loop : List ReconEnt → Nat → List ReconOp → List ReconOp → Pass ρ}
    {mk : MK} {mk' : MK'} (hmk : ∀ m n i e, mk m n i (some e) = some (mk' m n i e))
    {deepEq : Option ReconEnt → Option ReconEnt → Bool} {expl : Bool} {ni : String} {dst : List ReconEnt}
    {same : ReconEnt → ReconEnt → Bool}
    (nil : ∀ id rep add, loop [] id rep add = .inr (id, rep, add))
    (absent : ∀ id rep add e t (p : Nat → ReconOp), dst.find? (same e) = none →
      (∀ op, mk op ni (id + 1) (some e) = some (p op)) →
      loop (e :: t) id rep add = loop t (id + 1) rep (add ++ [p AFTOperation_ADD]))
    (present : ∀ id rep add e t d (p : Nat → ReconOp), dst.find? (same e) = some d →
      (∀ op, mk op ni (id + 1) (some e) = some (p op)) →
      loop (e :: t) id rep add =
        if deepEq (some e) (some d) = true then loop t id rep add
        else loop t (id + 1) (rep ++ [p (if expl = true then AFTOperation_REPLACE else AFTOperation_ADD)]) add) :
    ∀ l id rep add, loop l id rep add = .inr (addPass mk' deepEq expl ni dst same l id rep add) := by
  intro l id rep add
  fun_induction addPass mk' deepEq expl ni dst same l id rep add with
  | case1 => exact nil ..
  | case2 e t id rep add hf ih => rw [absent _ _ _ _ _ _ hf fun _ => hmk ..]; exact ih
  | case3 e t id rep add d hf hd ih => rw [present _ _ _ _ _ _ _ hf fun _ => hmk .., if_pos hd]; exact ih
  | case4 e t id rep add d hf hd ih => rw [present _ _ _ _ _ _ _ hf fun _ => hmk .., if_neg hd]; exact ih

/-- the same for the five DELETE loops -/
theorem delLoop_eq {ρ : Type} {loop : List ReconEnt → Nat → List ReconOp → Sum ρ (Nat × List ReconOp)}
    {mk : MK} {mk' : MK'} (hmk : ∀ m n i e, mk m n i (some e) = some (mk' m n i e))
    {ni : String} {src : List ReconEnt} {same : ReconEnt → ReconEnt → Bool} {bad : ReconEnt → Nat → List ReconOp → ρ}
    (nil : ∀ id del, loop [] id del = .inr (id, del))
    (cons : ∀ e t id del, loop (e :: t) id del =
      match src.find? (same e) with
      | none => (match mk AFTOperation_DELETE ni (id + 1) (some e) with
                 | none => .inl (bad e id del)
                 | some p => loop t (id + 1) (del ++ [p]))
      | some _ => loop t id del) :
    ∀ l id del, loop l id del = .inr (delPass mk' ni src same l id del) := by
  intro l
  induction l with
  | nil => exact nil
  | cons e t ih =>
    intro id del
    rw [cons, hmk, delPass]
    cases src.find? (same e) <;> exact ih _ _

open reconDiff.join1.loop3.join2.join3 in
theorem loop4_eq (deepEq : Option ReconEnt → Option ReconEnt → Bool) (mk : MK) (mk' : MK') (mkErr : Status) (expl : List Nat) (ni : String)
    (b1 b2 b3 b4 b5 b6 b7 : List ReconOp) (dstNI : ReconNI)
    (hmk : ∀ m n i e, mk m n i (some e) = some (mk' m n i e)) :
    ∀ (l : List ReconEnt) (id : Nat) (rep add : List ReconOp),
      reconDiff.join1.loop3.join2.join3.loop4 deepEq mk mkErr expl ni b1 b2 b3 b4 b5 b6 b7 dstNI l id rep add =
        Sum.inr (addPass mk' deepEq (expl.contains AFTType_IPV4) ni dstNI.Afts.Ipv4Entry sameS l id rep add) :=
  addLoop_eq hmk (fun _ _ _ => loop4.eq_1 ..)
    (fun _ _ _ _ _ _ h hp => by
      unfold sameS at h; rewrite [loop4.eq_2, h]
      cases expl.contains AFTType_IPV4 <;> exact (loop4.join4.eq_1 ..).trans (by rewrite [hp]; rfl))
    fun _ _ _ _ _ _ _ h hp => by
      unfold sameS at h; rewrite [loop4.eq_2, h]
      cases expl.contains AFTType_IPV4 <;>
        exact ite_congr rfl (fun _ => rfl) fun _ => (loop4.join5.eq_1 ..).trans (by rewrite [hp]; rfl)

open reconDiff.join1.loop3.join2.join3 in
theorem loop5_eq (deepEq : Option ReconEnt → Option ReconEnt → Bool) (mk : MK) (mk' : MK') (mkErr : Status) (expl : List Nat) (ni : String)
    (b1 b2 b3 b4 b5 b6 b7 : List ReconOp) (dstNI : ReconNI)
    (hmk : ∀ m n i e, mk m n i (some e) = some (mk' m n i e)) :
    ∀ (l : List ReconEnt) (id : Nat) (rep add : List ReconOp),
      reconDiff.join1.loop3.join2.join3.loop5 deepEq mk mkErr expl ni b1 b2 b3 b4 b5 b6 b7 dstNI l id rep add =
        Sum.inr (addPass mk' deepEq (expl.contains AFTType_IPV6) ni dstNI.Afts.Ipv6Entry sameS l id rep add) :=
  addLoop_eq hmk (fun _ _ _ => loop5.eq_1 ..)
    (fun _ _ _ _ _ _ h hp => by
      unfold sameS at h; rewrite [loop5.eq_2, h]
      cases expl.contains AFTType_IPV6 <;> exact (loop5.join6.eq_1 ..).trans (by rewrite [hp]; rfl))
    fun _ _ _ _ _ _ _ h hp => by
      unfold sameS at h; rewrite [loop5.eq_2, h]
      cases expl.contains AFTType_IPV6 <;>
        exact ite_congr rfl (fun _ => rfl) fun _ => (loop5.join7.eq_1 ..).trans (by rewrite [hp]; rfl)

open reconDiff.join1.loop3.join2.join3 in
theorem loop6_eq (deepEq : Option ReconEnt → Option ReconEnt → Bool) (mk : MK) (mk' : MK') (mkErr : Status) (expl : List Nat) (ni : String)
    (b1 b2 b3 b4 b5 b6 b7 : List ReconOp) (dstNI : ReconNI)
    (hmk : ∀ m n i e, mk m n i (some e) = some (mk' m n i e)) :
    ∀ (l : List ReconEnt) (id : Nat) (rep add : List ReconOp),
      reconDiff.join1.loop3.join2.join3.loop6 deepEq mk mkErr expl ni b1 b2 b3 b4 b5 b6 b7 dstNI l id rep add =
        Sum.inr (addPass mk' deepEq (expl.contains AFTType_MPLS) ni dstNI.Afts.LabelEntry sameN l id rep add) :=
  addLoop_eq hmk (fun _ _ _ => loop6.eq_1 ..)
    (fun _ _ _ _ _ _ h hp => by
      unfold sameN at h; rewrite [loop6.eq_2, h]
      cases expl.contains AFTType_MPLS <;> exact (loop6.join8.eq_1 ..).trans (by rewrite [hp]; rfl))
    fun _ _ _ _ _ _ _ h hp => by
      unfold sameN at h; rewrite [loop6.eq_2, h]
      cases expl.contains AFTType_MPLS <;>
        exact ite_congr rfl (fun _ => rfl) fun _ => (loop6.join9.eq_1 ..).trans (by rewrite [hp]; rfl)

open reconDiff.join1.loop3.join2.join3 in
theorem loop7_eq (deepEq : Option ReconEnt → Option ReconEnt → Bool) (mk : MK) (mk' : MK') (mkErr : Status) (expl : List Nat) (ni : String)
    (b1 b2 b3 b4 b5 b6 b7 : List ReconOp) (dstNI : ReconNI)
    (hmk : ∀ m n i e, mk m n i (some e) = some (mk' m n i e)) :
    ∀ (l : List ReconEnt) (id : Nat) (rep add : List ReconOp),
      reconDiff.join1.loop3.join2.join3.loop7 deepEq mk mkErr expl ni b1 b2 b3 b4 b5 dstNI b6 b7 l id rep add =
        Sum.inr (addPass mk' deepEq (expl.contains AFTType_NEXTHOP_GROUP) ni dstNI.Afts.NextHopGroup sameN l id rep add) :=
  addLoop_eq hmk (fun _ _ _ => loop7.eq_1 ..)
    (fun _ _ _ _ _ _ h hp => by
      unfold sameN at h; rewrite [loop7.eq_2, h]
      cases expl.contains AFTType_NEXTHOP_GROUP <;> exact (loop7.join10.eq_1 ..).trans (by rewrite [hp]; rfl))
    fun _ _ _ _ _ _ _ h hp => by
      unfold sameN at h; rewrite [loop7.eq_2, h]
      cases expl.contains AFTType_NEXTHOP_GROUP <;>
        exact ite_congr rfl (fun _ => rfl) fun _ => (loop7.join11.eq_1 ..).trans (by rewrite [hp]; rfl)

open reconDiff.join1.loop3.join2.join3 in
theorem loop8_eq (deepEq : Option ReconEnt → Option ReconEnt → Bool) (mk : MK) (mk' : MK') (mkErr : Status) (expl : List Nat) (ni : String)
    (b1 b2 b3 b4 b5 b6 b7 : List ReconOp) (dstNI : ReconNI)
    (hmk : ∀ m n i e, mk m n i (some e) = some (mk' m n i e)) :
    ∀ (l : List ReconEnt) (id : Nat) (rep add : List ReconOp),
      reconDiff.join1.loop3.join2.join3.loop8 deepEq mk mkErr expl ni b1 b2 b3 dstNI b4 b5 b6 b7 l id rep add =
        Sum.inr (addPass mk' deepEq (expl.contains AFTType_NEXTHOP) ni dstNI.Afts.NextHop sameN l id rep add) :=
  addLoop_eq hmk (fun _ _ _ => loop8.eq_1 ..)
    (fun _ _ _ _ _ _ h hp => by
      unfold sameN at h; rewrite [loop8.eq_2, h]
      cases expl.contains AFTType_NEXTHOP <;> exact (loop8.join12.eq_1 ..).trans (by rewrite [hp]; rfl))
    fun _ _ _ _ _ _ _ h hp => by
      unfold sameN at h; rewrite [loop8.eq_2, h]
      cases expl.contains AFTType_NEXTHOP <;>
        exact ite_congr rfl (fun _ => rfl) fun _ => (loop8.join13.eq_1 ..).trans (by rewrite [hp]; rfl)

theorem loop9_eq (mk : MK) (mk' : MK') (mkErr : Status) (ni : String)
    (b1 b2 b3 b4 b5 b6 b7 b8 : List ReconOp) (srcNI : ReconNI)
    (hmk : ∀ m n i e, mk m n i (some e) = some (mk' m n i e)) :
    ∀ (l : List ReconEnt) (id : Nat) (del : List ReconOp),
      reconDiff.join1.loop3.join2.join3.loop9 mk mkErr ni b1 b2 srcNI b3 b4 b5 b6 b7 b8 l id del =
        Sum.inr (delPass mk' ni srcNI.Afts.Ipv4Entry sameS l id del) :=
  delLoop_eq hmk (fun _ _ => rfl) (fun _ _ _ _ => rfl)

theorem loop10_eq (mk : MK) (mk' : MK') (mkErr : Status) (ni : String)
    (b1 b2 b3 b4 b5 b6 b7 b8 : List ReconOp) (srcNI : ReconNI)
    (hmk : ∀ m n i e, mk m n i (some e) = some (mk' m n i e)) :
    ∀ (l : List ReconEnt) (id : Nat) (del : List ReconOp),
      reconDiff.join1.loop3.join2.join3.loop10 mk mkErr ni b1 b2 srcNI b3 b4 b5 b6 b7 b8 l id del =
        Sum.inr (delPass mk' ni srcNI.Afts.Ipv6Entry sameS l id del) :=
  delLoop_eq hmk (fun _ _ => rfl) (fun _ _ _ _ => rfl)

theorem loop11_eq (mk : MK) (mk' : MK') (mkErr : Status) (ni : String)
    (b1 b2 b3 b4 b5 b6 b7 b8 : List ReconOp) (srcNI : ReconNI)
    (hmk : ∀ m n i e, mk m n i (some e) = some (mk' m n i e)) :
    ∀ (l : List ReconEnt) (id : Nat) (del : List ReconOp),
      reconDiff.join1.loop3.join2.join3.loop11 mk mkErr ni b1 b2 srcNI b3 b4 b5 b6 b7 b8 l id del =
        Sum.inr (delPass mk' ni srcNI.Afts.LabelEntry sameN l id del) :=
  delLoop_eq hmk (fun _ _ => rfl) (fun _ _ _ _ => rfl)

theorem loop12_eq (mk : MK) (mk' : MK') (mkErr : Status) (ni : String)
    (b1 b2 b3 b4 b5 b6 b7 b8 : List ReconOp) (srcNI : ReconNI)
    (hmk : ∀ m n i e, mk m n i (some e) = some (mk' m n i e)) :
    ∀ (l : List ReconEnt) (id : Nat) (del : List ReconOp),
      reconDiff.join1.loop3.join2.join3.loop12 mk mkErr ni b1 srcNI b2 b3 b4 b5 b6 b7 b8 l id del =
        Sum.inr (delPass mk' ni srcNI.Afts.NextHopGroup sameN l id del) :=
  delLoop_eq hmk (fun _ _ => rfl) (fun _ _ _ _ => rfl)

theorem loop13_eq (mk : MK) (mk' : MK') (mkErr : Status) (ni : String)
    (b1 b2 b3 b4 b5 b6 b7 b8 : List ReconOp) (srcNI : ReconNI)
    (hmk : ∀ m n i e, mk m n i (some e) = some (mk' m n i e)) :
    ∀ (l : List ReconEnt) (id : Nat) (del : List ReconOp),
      reconDiff.join1.loop3.join2.join3.loop13 mk mkErr ni srcNI b1 b2 b3 b4 b5 b6 b7 b8 l id del =
        Sum.inr (delPass mk' ni srcNI.Afts.NextHop sameN l id del) :=
  delLoop_eq hmk (fun _ _ => rfl) (fun _ _ _ _ => rfl)

abbrev St := Nat × List ReconOp × List ReconOp × List ReconOp × List ReconOp × List ReconOp × List ReconOp × List ReconOp × List ReconOp × List ReconOp

/-- what `diff` does for one network instance `ni` (an instance missing on one side counts as
empty there): the five ADD / REPLACE passes in the order IPv4, IPv6, MPLS, groups, next-hops, then
the five DELETE passes in the same order; ids run through all of them. The state is
(id, Replace.TopLevel, Add.TopLevel, Replace.NHG, Add.NHG, Replace.NH, Add.NH, Delete.TopLevel,
Delete.NHG, Delete.NH). -/
def niStep (deepEq : Option ReconEnt → Option ReconEnt → Bool) (mk4 mk6 mkM mkG mkN : MK') (expl : List Nat)
    (srcC dstC : Map String ReconNI) (st : St) (ni : String) : St :=
  let s := (Map.get? srcC ni).getD {}
  let d := (Map.get? dstC ni).getD {}
  let r4 := addPass mk4 deepEq (expl.contains AFTType_IPV4) ni d.Afts.Ipv4Entry sameS s.Afts.Ipv4Entry st.1 st.2.1 st.2.2.1
  let r6 := addPass mk6 deepEq (expl.contains AFTType_IPV6) ni d.Afts.Ipv6Entry sameS s.Afts.Ipv6Entry r4.1 r4.2.1 r4.2.2
  let rM := addPass mkM deepEq (expl.contains AFTType_MPLS) ni d.Afts.LabelEntry sameN s.Afts.LabelEntry r6.1 r6.2.1 r6.2.2
  let rG := addPass mkG deepEq (expl.contains AFTType_NEXTHOP_GROUP) ni d.Afts.NextHopGroup sameN s.Afts.NextHopGroup rM.1 st.2.2.2.1 st.2.2.2.2.1
  let rN := addPass mkN deepEq (expl.contains AFTType_NEXTHOP) ni d.Afts.NextHop sameN s.Afts.NextHop rG.1 st.2.2.2.2.2.1 st.2.2.2.2.2.2.1
  let d4 := delPass mk4 ni s.Afts.Ipv4Entry sameS d.Afts.Ipv4Entry rN.1 st.2.2.2.2.2.2.2.1
  let d6 := delPass mk6 ni s.Afts.Ipv6Entry sameS d.Afts.Ipv6Entry d4.1 d4.2
  let dM := delPass mkM ni s.Afts.LabelEntry sameN d.Afts.LabelEntry d6.1 d6.2
  let dG := delPass mkG ni s.Afts.NextHopGroup sameN d.Afts.NextHopGroup dM.1 st.2.2.2.2.2.2.2.2.1
  let dN := delPass mkN ni s.Afts.NextHop sameN d.Afts.NextHop dG.1 st.2.2.2.2.2.2.2.2.2
  (dN.1, rM.2.1, rM.2.2, rG.2.1, rG.2.2, rN.2.1, rN.2.2, dM.2, dG.2, dN.2)

/-- what the translation writes for an instance missing on one side is the empty instance -/
theorem default_ni : ({ Afts := default } : ReconNI) = {} := rfl

open reconDiff.join1 in
theorem loop3_eq (deepEq : Option ReconEnt → Option ReconEnt → Bool) (mk4 mk6 mkM mkG mkN : MK) (mk4' mk6' mkM' mkG' mkN' : MK')
    (mkErr : Status) (expl : List Nat) (srcC dstC : Map String ReconNI)
    (h4 : ∀ m n i e, mk4 m n i (some e) = some (mk4' m n i e)) (h6 : ∀ m n i e, mk6 m n i (some e) = some (mk6' m n i e))
    (hM : ∀ m n i e, mkM m n i (some e) = some (mkM' m n i e)) (hG : ∀ m n i e, mkG m n i (some e) = some (mkG' m n i e))
    (hN : ∀ m n i e, mkN m n i (some e) = some (mkN' m n i e)) :
    ∀ (l : List String) (id : Nat) (a b c d e f g h i : List ReconOp),
      reconDiff.join1.loop3 deepEq mk4 mk6 mkM mkG mkN mkErr expl srcC dstC l id a b c d e f g h i =
        Sum.inr (l.foldl (niStep deepEq mk4' mk6' mkM' mkG' mkN' expl srcC dstC) (id, a, b, c, d, e, f, g, h, i)) := by
  intro l
  induction l with
  | nil => intros; rw [loop3]; rfl
  | cons ni t ih =>
    intro id a b c d e f g h i
    -- one proof for the four cases of which side has the instance: the contents come in as `s`, `d'` with their equations
    have body : ∀ s d', s = (Map.get? srcC ni).getD {} → d' = (Map.get? dstC ni).getD {} →
        loop3.join2.join3 deepEq mk4 mk6 mkM mkG mkN mkErr expl srcC dstC ni t id a b c d e f g h i s d' =
          Sum.inr ((ni :: t).foldl (niStep deepEq mk4' mk6' mkM' mkG' mkN' expl srcC dstC) (id, a, b, c, d, e, f, g, h, i)) := by
      intro s d' hs hd
      rw [loop3.join2.join3]
      simp only [loop4_eq (hmk := h4), loop5_eq (hmk := h6), loop6_eq (hmk := hM), loop7_eq (hmk := hG),
        loop8_eq (hmk := hN), loop9_eq (hmk := h4), loop10_eq (hmk := h6), loop11_eq (hmk := hM),
        loop12_eq (hmk := hG), loop13_eq (hmk := hN)]
      rw [ih, List.foldl_cons, hs, hd]
      rfl
    rw [loop3]
    cases hs : Map.get? srcC ni <;> dsimp only <;> rw [loop3.join2] <;> cases hd : Map.get? dstC ni <;>
      exact body _ _ (by rw [hs]; rfl) (by rw [hd]; rfl)

/-- `diff`'s set `netInsts` as the translation keeps it, a list in the order of insertion: the instances of the
intended RIB, then those only the target has, each once (within each, in the order of the contents map). Go ranges over
the set in an order of its own; the theorem is for this one. -/
def nisOf (srcC dstC : Map String ReconNI) : List String :=
  dstC.foldl (fun l e => if l.contains e.1 then l else l ++ [e.1])
    (srcC.foldl (fun l e => if l.contains e.1 then l else l ++ [e.1]) [])

theorem loop1_eq : ∀ (l : List (String × ReconNI)) (acc : List String),
    reconDiff.join1.loop1 l acc = Sum.inr (l.foldl (fun l e => if l.contains e.1 then l else l ++ [e.1]) acc) :=
  loop_fold (fun _ => rfl) (fun _ _ _ => rfl)

theorem loop2_eq : ∀ (l : List (String × ReconNI)) (acc : List String),
    reconDiff.join1.loop2 l acc = Sum.inr (l.foldl (fun l e => if l.contains e.1 then l else l ++ [e.1]) acc) :=
  loop_fold (fun _ => rfl) (fun _ _ _ => rfl)

/-- the explicit-replace set as `diff` reads it: ALL stands for the five tables -/
def explOf (expl : List Nat) : List Nat :=
  if expl.contains AFTType_ALL then [AFTType_IPV4, AFTType_IPV6, AFTType_MPLS, AFTType_NEXTHOP, AFTType_NEXTHOP_GROUP] else expl

/-- `niStep` reads the explicit-replace set only by asking whether each of the five tables is in it -/
theorem niStep_congr (deepEq : Option ReconEnt → Option ReconEnt → Bool) (mk4 mk6 mkM mkG mkN : MK') {ex ex' : List Nat}
    (srcC dstC : Map String ReconNI)
    (h : ∀ a ∈ [AFTType_IPV4, AFTType_IPV6, AFTType_MPLS, AFTType_NEXTHOP_GROUP, AFTType_NEXTHOP],
      ex.contains a = ex'.contains a) :
    niStep deepEq mk4 mk6 mkM mkG mkN ex srcC dstC = niStep deepEq mk4 mk6 mkM mkG mkN ex' srcC dstC := by
  funext st ni
  simp only [niStep, h _ (List.mem_cons_self ..), h AFTType_IPV6 (by decide), h AFTType_MPLS (by decide),
    h AFTType_NEXTHOP_GROUP (by decide), h AFTType_NEXTHOP (by decide)]

/-- **`diff` as a fold**: nil RIBs and unreadable contents are errors and nothing is emitted;
otherwise the state is folded through `niStep` over the union of the network instances. -/
theorem gen_reconDiff (src dst : Option Unit) (expl : List Nat) (srcC dstC : Map String ReconNI) (srcErr dstErr : Option Status)
    (deepEq : Option ReconEnt → Option ReconEnt → Bool) (mk4 mk6 mkM mkG mkN : MK) (mk4' mk6' mkM' mkG' mkN' : MK') (mkErr : Status)
    (h4 : ∀ m n i e, mk4 m n i (some e) = some (mk4' m n i e)) (h6 : ∀ m n i e, mk6 m n i (some e) = some (mk6' m n i e))
    (hM : ∀ m n i e, mkM m n i (some e) = some (mkM' m n i e)) (hG : ∀ m n i e, mkG m n i (some e) = some (mkG' m n i e))
    (hN : ∀ m n i e, mkN m n i (some e) = some (mkN' m n i e))
    (id : Nat) (addNH addNHG addTop repNH repNHG repTop delNH delNHG delTop : List ReconOp) :
    Gen.reconDiff src dst expl srcC srcErr dstC dstErr () deepEq mk4 mk6 mkM mkG mkN mkErr id addNH addNHG addTop repNH repNHG repTop
        delNH delNHG delTop =
      if src.isNone || dst.isNone || srcErr.isSome || dstErr.isSome then
        (none, some ⟨.Unknown, .none⟩, id, addNH, addNHG, addTop, repNH, repNHG, repTop, delNH, delNHG, delTop)
      else
        let r := (nisOf srcC dstC).foldl (niStep deepEq mk4' mk6' mkM' mkG' mkN' (explOf expl) srcC dstC)
          (id, repTop, addTop, repNHG, addNHG, repNH, addNH, delTop, delNHG, delNH)
        (some (), none, r.1, r.2.2.2.2.2.2.1, r.2.2.2.2.1, r.2.2.1, r.2.2.2.2.2.1, r.2.2.2.1, r.2.1,
          r.2.2.2.2.2.2.2.2.2, r.2.2.2.2.2.2.2.2.1, r.2.2.2.2.2.2.2.1) := by
  -- the two nil checks (in whichever order), the two read errors, then the walk. (The nine buckets stand in the generated
  -- definition in the order of `diff`'s result struct and in `niStep`'s state in the order the passes fill them; the
  -- projections in the statement are that permutation.)
  unfold Gen.reconDiff
  cases src <;> cases dst
  iterate 3 rfl
  -- `diff` replaces ALL by the five tables and goes on with the set, `ex`: the rest does not look at how the set was made,
  -- nor at the order in which the code lists the five (`niStep_congr`)
  dsimp only
  rw [← apply_ite]
  generalize hx : (if expl.contains AFTType_ALL = true then _ else expl) = ex
  have hex : niStep deepEq mk4' mk6' mkM' mkG' mkN' ex srcC dstC =
      niStep deepEq mk4' mk6' mkM' mkG' mkN' (explOf expl) srcC dstC := by
    subst hx
    unfold explOf
    split
    · exact niStep_congr _ _ _ _ _ _ _ _ (by decide)
    · rfl
  unfold reconDiff.join1
  cases srcErr with
  | some _ => rfl
  | none =>
  cases dstErr with
  | some _ => rfl
  | none =>
    simp only [loop1_eq, loop2_eq,
      loop3_eq deepEq mk4 mk6 mkM mkG mkN mk4' mk6' mkM' mkG' mkN' mkErr _ srcC dstC h4 h6 hM hG hN, hex]
    rfl

section
variable (mk : MK') (hE : ∀ m n i e, (mk m n i e).Entry = some e)
  (deepEq : Option ReconEnt → Option ReconEnt → Bool) (expl : Bool) (ni : String) (dst : List ReconEnt)
  (same : ReconEnt → ReconEnt → Bool)

/-- the filter of `toAdd` in the model (`Gribi/Model/Recon.lean`; of `toDelete`, with the sides exchanged), on one table -/
def absent (e : ReconEnt) : Bool := (dst.find? (same e)).isNone
/-- the filter of the model's `toReplace`, on one table -/
def differs (e : ReconEnt) : Bool :=
  match dst.find? (same e) with
  | some d => !deepEq (some e) (some d)
  | none => false

include hE in
theorem addPass_emits : ∀ (l : List ReconEnt) (id : Nat) (rep add : List ReconOp),
    ((addPass mk deepEq expl ni dst same l id rep add).2.2.map (·.Entry) =
        add.map (·.Entry) ++ (l.filter (absent dst same)).map some) ∧
    ((addPass mk deepEq expl ni dst same l id rep add).2.1.map (·.Entry) =
        rep.map (·.Entry) ++ (l.filter (differs deepEq dst same)).map some) := by
  intro l id rep add
  fun_induction addPass mk deepEq expl ni dst same l id rep add with
  | case1 => simp
  | case2 e t id rep add hf ih => simp [ih, absent, differs, hf, hE]
  | case3 e t id rep add d hf hd ih => simp [ih, absent, differs, hf, hd]
  | case4 e t id rep add d hf hd ih => simp [ih, absent, differs, hf, hd, hE]

theorem addPass_count : ∀ (l : List ReconEnt) (id : Nat) (rep add : List ReconOp),
    (addPass mk deepEq expl ni dst same l id rep add).1 + rep.length + add.length =
      id + (addPass mk deepEq expl ni dst same l id rep add).2.1.length + (addPass mk deepEq expl ni dst same l id rep add).2.2.length := by
  intro l id rep add
  fun_induction addPass mk deepEq expl ni dst same l id rep add with
  | case1 => rfl
  | case2 e t id rep add hf ih => rw [List.length_append, List.length_singleton] at ih; omega
  | case3 e t id rep add d hf hd ih => exact ih
  | case4 e t id rep add d hf hd ih => rw [List.length_append, List.length_singleton] at ih; omega

include hE in
theorem delPass_emits (src : List ReconEnt) : ∀ (l : List ReconEnt) (id : Nat) (del : List ReconOp),
    (delPass mk ni src same l id del).2.map (·.Entry) = del.map (·.Entry) ++ (l.filter (absent src same)).map some ∧
    (delPass mk ni src same l id del).1 + del.length = id + (delPass mk ni src same l id del).2.length := by
  intro l id del
  fun_induction delPass mk ni src same l id del with
  | case1 => simp
  | case2 e t id del hf ih => rw [List.length_append, List.length_singleton] at ih; exact ⟨by simp [ih.1, absent, hf, hE], by omega⟩
  | case3 e t id del d hf ih => exact ⟨by simp [ih.1, absent, hf], ih.2⟩

end

theorem gen_recon_translated : Gen.reconDiff_problem = none := rfl

end Gribi.GenEquiv.Recon
