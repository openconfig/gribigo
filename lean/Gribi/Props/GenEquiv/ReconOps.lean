/-
The tie by translation, the reconciler's operation builders `v4Operation`, `v6Operation`,
`mplsOperation`, `nhgOperation`, `nhOperation` (rib/reconciler/reconcile.go) — the functions that
`diff`'s translation (`Recon.lean`) takes as the oracles `mk4` … `mkN`.

What `rib.ConcreteXXXProto` returns is opaque (it is the ygot-to-protobuf conversion, tied by the
correspondence runs of C07 and C15); what the builders do with it is not: each puts the converted
entry into the wrapper of **its own** table, with the id the counter holds at the call, the
network instance and the method it was given, and fails exactly when the conversion fails.
-/
import Gribi.Gen.ReconV4Operation
import Gribi.Gen.ReconV6Operation
import Gribi.Gen.ReconMplsOperation
import Gribi.Gen.ReconNhgOperation
import Gribi.Gen.ReconNhOperation
namespace Gribi.GenEquiv.ReconOps
open Gribi Gribi.Gen

theorem gen_reconOps_ok (method : Nat) (ni : String) (idNow : Nat) (c : ConvTok) (convErr : Status) :
    Gen.reconV4Operation method ni idNow (some c) convErr =
      (some { Id := idNow, NetworkInstance := ni, Op := method, Entry := some (.Ipv4 (some c)) }, none) ∧
    Gen.reconV6Operation method ni idNow (some c) convErr =
      (some { Id := idNow, NetworkInstance := ni, Op := method, Entry := some (.Ipv6 (some c)) }, none) ∧
    Gen.reconMplsOperation method ni idNow (some c) convErr =
      (some { Id := idNow, NetworkInstance := ni, Op := method, Entry := some (.Mpls (some c)) }, none) ∧
    Gen.reconNhgOperation method ni idNow (some c) convErr =
      (some { Id := idNow, NetworkInstance := ni, Op := method, Entry := some (.NextHopGroup (some c)) }, none) ∧
    Gen.reconNhOperation method ni idNow (some c) convErr =
      (some { Id := idNow, NetworkInstance := ni, Op := method, Entry := some (.NextHop (some c)) }, none) :=
  ⟨rfl, rfl, rfl, rfl, rfl⟩

theorem gen_reconOps_err (method : Nat) (ni : String) (idNow : Nat) (convErr : Status) :
    (Gen.reconV4Operation method ni idNow none convErr).1 = none ∧ (Gen.reconV4Operation method ni idNow none convErr).2.isSome ∧
    (Gen.reconV6Operation method ni idNow none convErr).1 = none ∧ (Gen.reconV6Operation method ni idNow none convErr).2.isSome ∧
    (Gen.reconMplsOperation method ni idNow none convErr).1 = none ∧ (Gen.reconMplsOperation method ni idNow none convErr).2.isSome ∧
    (Gen.reconNhgOperation method ni idNow none convErr).1 = none ∧ (Gen.reconNhgOperation method ni idNow none convErr).2.isSome ∧
    (Gen.reconNhOperation method ni idNow none convErr).1 = none ∧ (Gen.reconNhOperation method ni idNow none convErr).2.isSome :=
  ⟨rfl, rfl, rfl, rfl, rfl, rfl, rfl, rfl, rfl, rfl⟩

/-- two calls of the IPv4 builder with different counter values give operations with different
ids (`diff` advances the counter before each call: `Recon.addPass`); the other four builders put
the counter's value into the operation in the same way (`gen_reconOps_ok`) -/
theorem gen_reconOps_id (method : Nat) (ni : String) (i j : Nat) (c : ConvTok) (e : Status) (h : i ≠ j) :
    (Gen.reconV4Operation method ni i (some c) e).1 ≠ (Gen.reconV4Operation method ni j (some c) e).1 := by
  simp [(gen_reconOps_ok method ni i c e).1, (gen_reconOps_ok method ni j c e).1, h]

theorem gen_reconOps_translated :
    Gen.reconV4Operation_problem = none ∧ Gen.reconV6Operation_problem = none ∧ Gen.reconMplsOperation_problem = none ∧
    Gen.reconNhgOperation_problem = none ∧ Gen.reconNhOperation_problem = none := ⟨rfl, rfl, rfl, rfl, rfl⟩

end Gribi.GenEquiv.ReconOps
