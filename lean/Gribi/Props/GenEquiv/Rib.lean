/-
`rib.(*RIB).canResolve` and `canDelete`: whether an ADD / REPLACE is installable now, whether a
DELETE is allowed.

The candidate RIB (`candOf`: one ygot struct holding exactly the entry of the operation) has each
of its maps as a list; the next-hops a group lists are an arbitrary list, so `gen_canResolve` holds
for every order in which Go may walk that map (an order-dependence like defect D22 breaks it).
-/
import Gribi.Gen.CanResolve
import Gribi.Gen.CheckCandidate
import Gribi.Gen.CanDelete
import Gribi.Model.Rib
namespace Gribi.GenEquiv
open Gribi Gribi.Gen

def nhOf (n : Nat) : CandNH := ⟨n, n⟩

def emptyAfts : CandAfts := { NextHop := [], NextHopGroup := [], Ipv4Entry := [], Ipv6Entry := [], LabelEntry := [] }

def candOf (key : Key) (p : Payload) : CandRIB :=
  ⟨some (match key with
    | .nh i => { emptyAfts with NextHop := [nhOf i] }
    | .nhg g => { emptyAfts with NextHopGroup := [⟨g, g, p.nhs.map nhOf⟩] }
    | .v4 _ => { emptyAfts with Ipv4Entry := [⟨0, p.grp, p.grpNI⟩] }
    | .v6 _ => { emptyAfts with Ipv6Entry := [⟨0, p.grp, p.grpNI⟩] }
    | .mpls _ => { emptyAfts with LabelEntry := [⟨0, p.grp, p.grpNI⟩] })⟩

/-- the part of the model's `classify` that is `canResolve` -/
def resolveTry (s : Rib) (ni : NI) (key : Key) (p : Payload) : Rib.Try :=
  match key with
  | .nh i => if i = 0 then .err else .ok
  | .nhg g =>
    if g = 0 ∨ p.nhs = [] ∨ p.nhs.contains 0 then .err
    else if p.nhs.all (fun n => s.has (ni, .nh n)) then .ok else .hold
  | _ =>
    if p.grp = 0 then .err
    else if p.grpNI ≠ "" ∧ ¬ s.hasNI p.grpNI then .err
    else if s.has (Rib.tgtNI ni p, .nhg p.grp) then .ok else .hold

theorem classify_eq (s : Rib) (op : Op) :
    Rib.classify s op =
      if op.cls ≠ .wf then .err
      else if op.ty = .replace ∧ ¬ s.has (op.ni, op.key) then .err
      else resolveTry s op.ni op.key op.pl := by
  unfold Rib.classify resolveTry
  cases op.key <;> rfl

def tryOut : Rib.Try → Bool × Option Status
  | .err => (false, some ⟨.Unknown, .none⟩)
  | .hold => (false, none)
  | .ok => (true, none)

theorem loop13_spec (nhExists : String → Nat → Bool) (ni : String) : ∀ (l : List CandNH),
    canResolve.loop1.loop8.loop12.loop13 nhExists ni l =
      if l.all (fun n => nhExists ni n.Index) then (true, none) else (false, none)
  | [] => rfl
  | x :: xs => by
    rw [canResolve.loop1.loop8.loop12.loop13, loop13_spec nhExists ni xs, List.all_cons]
    cases nhExists ni x.Index <;> rfl

theorem loop12_spec (nhExists : String → Nat → Bool) (ni : String) (g : CandNHG) : ∀ (l : List CandNH),
    canResolve.loop1.loop8.loop12 nhExists ni g l =
      if l.any (fun n => n.Index = 0) then (false, some ⟨.Unknown, .none⟩)
      else canResolve.loop1.loop8.loop12.loop13 nhExists ni g.NextHop
  | [] => rfl
  | x :: xs => by
    rw [canResolve.loop1.loop8.loop12, loop12_spec nhExists ni g xs, List.any_cons]
    cases x.Index <;> simp

theorem any_zero_map (l : List Nat) : (l.map nhOf).any (fun n => n.Index = 0) = l.contains 0 := by
  induction l with
  | nil => simp
  | cons x xs ih => simp [nhOf, ih, eq_comm]

/-- `canResolve` = the resolution part of the model's `classify`, for every key, payload (the
next-hops of a group in **any order**) and RIB state, in an instance that is named (`ni ≠ ""`) and
known; the branch that puts the default instance for the name `""` is not covered. Zero ids, an
empty group, a zero next-hop index anywhere in the group and an unknown group instance are errors
(never held); a group resolves when all its next-hops are installed in its own instance; a
top-level entry when its group is installed in the named, or else its own, instance. -/
theorem gen_canResolve (s : Rib) (d ni : NI) (key : Key) (p : Payload) (hni : ni ≠ "") (hk : s.hasNI ni = true)
    (f1 f2 : String → Nat → Bool) :
    Gen.canResolve ni (some (candOf key p)) none d (fun n => s.hasNI n) (fun n g => s.has (n, .nhg g))
        (fun n i => s.has (n, .nh i)) f1 f2 = tryOut (resolveTry s ni key p) := by
  -- an IPv4, IPv6 and MPLS entry are walked by three nested first-element loops with the same body, and neither
  -- the candidate nor `resolveTry` looks at the prefix or label: one computation serves the three (`exact top`
  -- below is by unfolding the loops over the empty tables)
  have top : Gen.canResolve ni (some (candOf (.v4 "") p)) none d (fun n => s.hasNI n) (fun n g => s.has (n, .nhg g))
      (fun n i => s.has (n, .nh i)) f1 f2 = tryOut (resolveTry s ni (.v4 "") p) := by
    simp only [Gen.canResolve, canResolve.loop1, candOf, emptyAfts, Option.bind, hni, if_false, hk, if_true,
      canResolve.loop1.loop8, canResolve.loop1.loop8.loop9, resolveTry, Rib.tgtNI]
    by_cases hg : p.grp = 0
    · simp [hg, tryOut]
    · by_cases hn : p.grpNI = ""
      · by_cases hh : s.has (ni, Key.nhg p.grp) = true <;> simp [hg, hn, hh, tryOut]
      · by_cases hkn : s.hasNI p.grpNI = true
        · by_cases hh : s.has (p.grpNI, Key.nhg p.grp) = true <;> simp [hg, hn, hkn, hh, tryOut]
        · simp [hg, hn, hkn, tryOut]
  cases key with
  | nh i => cases i <;> rfl
  | nhg g =>
    simp only [Gen.canResolve, canResolve.loop1, candOf, emptyAfts, Option.bind, hni, if_false, hk, if_true,
      canResolve.loop1.loop8, loop12_spec, loop13_spec, any_zero_map, List.all_map, Function.comp_def, nhOf, resolveTry, List.length_map]
    by_cases hg : g = 0
    · simp [hg, tryOut]
    · by_cases he : p.nhs = []
      · simp [hg, he, tryOut]
      · have hl : ¬ p.nhs.length = 0 := fun x => he (List.length_eq_zero_iff.mp x)
        by_cases hz : 0 ∈ p.nhs
        · simp [hg, he, hl, hz, tryOut]
        · by_cases ha : (p.nhs.all fun n => s.has (ni, Key.nh n)) = true <;> simp [hg, he, hl, hz, ha, tryOut]
  | v4 k | v6 k | mpls k => exact top

/-- the candidate built from one entry passes `checkCandidate` (exactly one entry, no unsupported
table): the `none` given for that oracle in `gen_canResolve` / `gen_canDelete` is what the code computes -/
theorem gen_checkCandidate_single (key : Key) (p : Payload) :
    ∀ a, (candOf key p).Afts = some a → Gen.checkCandidate a = none := by
  rintro _ ⟨⟩
  cases key <;> rfl

theorem gen_checkCandidate (a : CandAfts) :
    Gen.checkCandidate a = none ↔
      a.MacEntry = [] ∧ a.PolicyForwardingEntry = [] ∧
      a.Ipv6Entry.length + a.LabelEntry.length + a.Ipv4Entry.length + a.NextHopGroup.length + a.NextHop.length = 1 := by
  rw [← List.length_eq_zero_iff, ← List.length_eq_zero_iff]
  fun_cases Gen.checkCandidate a <;> simp only [reduceCtorEq, false_iff, true_iff] <;> omega

theorem gen_canResolve_translated : Gen.canResolve_problem = none ∧ Gen.checkCandidate_problem = none := ⟨rfl, rfl⟩

/-- the part of the model's `classifyDel` that is `canDelete` -/
def delTry (s : Rib) (ni : NI) (key : Key) : Rib.DTry :=
  match key with
  | .nhg g =>
    if g = 0 then .err
    else if ¬ s.has (ni, key) then .absent
    else if Rib.cnt s.nhgRef (ni, g) > 0 then .refd else .ok
  | .nh i =>
    if i = 0 then .err
    else if ¬ s.has (ni, key) then .absent
    else if Rib.cnt s.nhRef (ni, i) > 0 then .refd else .ok
  | _ => if s.has (ni, key) then .ok else .absent

theorem classifyDel_eq (s : Rib) (op : Op) :
    Rib.classifyDel s op =
      if op.cls ≠ .wf then .err
      else match op.key with
        | .mpls l => if l > Rib.maxLabel then .err else delTry s op.ni op.key
        | _ => delTry s op.ni op.key := by
  unfold Rib.classifyDel delTry
  cases op.key <;> rfl

def dtryOut : Rib.DTry → Bool × Option Status
  | .err => (false, some ⟨.Unknown, .none⟩)
  | .refd => (false, none)
  | .absent => (true, none)
  | .ok => (true, none)

/-- `canDelete` = the deletion rule of the model's `classifyDel`, for every key and RIB state, in an
instance that is named (`ni ≠ ""`) and known (the default-instance branch is not covered): an
IPv4 / IPv6 / label entry can always be removed; a group or next-hop with id 0 is an error; one
that is not installed can be "removed"; an installed one exactly when its reference counter is zero. -/
theorem gen_canDelete (s : Rib) (d ni : NI) (key : Key) (p : Payload) (hni : ni ≠ "") (hk : s.hasNI ni = true) :
    Gen.canDelete ni (some (candOf key p)) none d (fun n => s.hasNI n) (fun n g => s.has (n, .nhg g))
        (fun n i => s.has (n, .nh i)) (fun n g => decide (Rib.cnt s.nhgRef (n, g) > 0))
        (fun n i => decide (Rib.cnt s.nhRef (n, i) > 0)) = dtryOut (delTry s ni key) := by
  cases key with
  | nh i | nhg i =>
    simp only [Gen.canDelete, candOf, emptyAfts, Option.bind, hni, if_false, hk, if_true, List.length_nil,
      ne_eq, not_true_eq_false, canDelete.loop3, canDelete.loop3.loop4, nhOf, delTry]
    -- what is left is the same for a group and a next-hop. By the answers of its three tests, not by the way the code
    -- writes them: the id as zero / successor, so that the test of it computes whichever way round it stands
    generalize s.has _ = installed, Rib.cnt _ _ = c
    cases i with
    | zero => rfl
    | succ n =>
      cases installed with
      | false => rfl
      | true => by_cases hc : c > 0 <;> simp [hc, dtryOut]
  | v4 k | v6 k | mpls k =>
    rw [show dtryOut (delTry s ni _) = (true, none) by simp only [delTry]; split <;> rfl]
    simp [Gen.canDelete, candOf, emptyAfts, hni, hk]

/-- a named instance the RIB does not have is an error for both functions — except for a next-hop
(`hnh`): `canResolve` answers for a next-hop from its index alone, before it looks the instance up -/
theorem gen_rib_unknown_ni (s : Rib) (d ni : NI) (key : Key) (p : Payload) (hni : ni ≠ "") (hk : s.hasNI ni = false)
    (a b c e : String → Nat → Bool) (hnh : ∀ i, key ≠ .nh i) :
    (Gen.canResolve ni (some (candOf key p)) none d (fun n => s.hasNI n) a b c e).2 ≠ none ∧
    (Gen.canDelete ni (some (candOf key p)) none d (fun n => s.hasNI n) a b c e).2 ≠ none := by
  cases key with
  | nh i => exact absurd rfl (hnh i)
  | nhg g | v4 k | v6 k | mpls k => simp [Gen.canResolve, Gen.canDelete, canResolve.loop1, candOf, emptyAfts, hni, hk]

theorem gen_canDelete_translated : Gen.canDelete_problem = none := rfl

end Gribi.GenEquiv
