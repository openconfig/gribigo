/-
The RIB's orchestration of an ADD / REPLACE (rib/rib.go): `addEntryInternal` with `getPending`,
`addPending`, `rmPending`, and its caller `AddEntry`.

`addEntryInternal` calls itself for every held operation once an operation has been installed.
The generated definition is the *functional* of that recursion: it takes the function to call for
the retries as its first argument (`self`), passes it the results so far, the set of operations
already handled in this call tree, the held operations and the effects recorded so far, and takes
the new ones back. `gen_addEntryInternal` (= `addSpec`) holds for every `self`, every outcome of the
table-level `AddXXX` call (`done`, `orig`, `addErr`), of the resolved-entry hook, and every set of
held operations in every order (`getPending` ranges over a Go map).
-/
import Gribi.Gen.AddEntryInternal
import Gribi.Gen.RibAddEntry
import Gribi.Props.GenEquiv.Loop
namespace Gribi.GenEquiv.RibAdd
open Gribi Gribi.Gen

abbrev St := List RibOpResult × List RibOpResult × List Nat × Map Nat PendingEntry × List Eff
abbrev Self := String → AFTOperationC → List RibOpResult → List RibOpResult → List Nat → Map Nat PendingEntry → List Eff → Option Status × St

/-- `addEntryInternal`'s loop over the held operations after an install -/
def retry (self : Self) : List PendingEntry → List RibOpResult → List RibOpResult → List Nat → Map Nat PendingEntry → List Eff → Option Status × St
  | [], oks, fails, stack, pend, effs => (none, oks, fails, stack, pend, effs)
  | e :: rest, oks, fails, stack, pend, effs =>
    let r := self e.ni e.op oks fails stack pend effs
    match r.1 with
    | none => retry self rest r.2.1 r.2.2.1 r.2.2.2.1 r.2.2.2.2.1 r.2.2.2.2.2
    | some err => (some err, r.2)

def addEff (ni : String) (rep : Bool) : AFTEntry → Eff
  | .Ipv4 e => .addIPv4 ni e rep
  | .Ipv6 e => .addIPv6 ni e rep
  | .Mpls e => .addMPLS ni e rep
  | .NextHopGroup e => .addNHG ni e rep
  | .NextHop e => .addNH ni e rep

def refEff (ni : String) (orig : Option Unit) : AFTEntry → List Eff
  | .Ipv4 e => [.handleReferences ni orig (e.bind (·.Ipv4Entry))]
  | .Ipv6 e => [.handleReferences ni orig (e.bind (·.Ipv6Entry))]
  | .Mpls e => [.handleReferences ni orig (e.bind (·.LabelEntry))]
  | .NextHopGroup e => [.handleNHGReferences ni orig (e.bind (·.NextHopGroup))]
  | .NextHop _ => []

/-- the resolved-entry notification of an installed entry: table and key (top-level entries only;
the code tests the IPv4 prefix, then the label, then the IPv6 prefix for being set) -/
def hookOf : AFTEntry → Option (Nat × AnyKey)
  | .Ipv4 e => if (e.map (·.Prefix)).getD "" ≠ "" then some (constants_IPv4, .str ((e.map (·.Prefix)).getD "")) else none
  | .Ipv6 e => if (e.map (·.Prefix)).getD "" ≠ "" then some (constants_IPv6, .str ((e.map (·.Prefix)).getD "")) else none
  | .Mpls e => if (e.map (·.LabelUint64)).getD 0 ≠ 0 then some (constants_MPLS, .num ((e.map (·.LabelUint64)).getD 0)) else none
  | _ => none

def addSpec (self : Self) (ni : String) (op : AFTOperationC) (niKnown niValid : String → Bool) (done : Bool) (orig : Option Unit)
    (addErr hookErr : Option Status) (noFwd : Bool) (oks fails : List RibOpResult) (stack : List Nat) (pend : Map Nat PendingEntry) :
    Option Status × St :=
  if stack.contains op.Id then (none, oks, fails, stack, pend, [])            -- already handled in this call tree
  else if !(niKnown ni && niValid ni) then (some ⟨.Unknown, .none⟩, oks, fails, stack, pend, [])
  else match op.Entry with
    | none => (some ⟨.Unimplemented, .none⟩, oks, fails, stack, pend, [])
    | some e =>
      let call := [addEff ni (decide (op.Op = AFTOperation_REPLACE)) e]
      match addErr with
      | some _ =>
        -- failed for good: answered FAILED, no longer held, never retried in this call tree
        (none, oks, fails ++ [⟨op.Id⟩], op.Id :: stack, Map.erase pend op.Id, call)
      | none =>
        if done then
          let effs := call ++ refEff ni orig e
          let pend1 := Map.erase pend op.Id
          match hookOf e with
          | some (aft, key) =>
            let effs := effs ++ [.resolvedHook constants_Add ni aft key]
            match hookErr with
            | some _ => (some ⟨.Unknown, .none⟩, oks ++ [⟨op.Id⟩], fails, op.Id :: stack, pend1, effs)
            | none => retry self (pend1.map (·.2)) (oks ++ [⟨op.Id⟩]) fails (op.Id :: stack) pend1 effs
          | none => retry self (pend1.map (·.2)) (oks ++ [⟨op.Id⟩]) fails (op.Id :: stack) pend1 effs
        else if noFwd then (none, oks, fails ++ [⟨op.Id⟩], stack, pend, call)   -- unresolved and forward references disabled
        else (none, oks, fails, stack, Map.insert pend op.Id ⟨ni, op⟩, call)    -- held

theorem getPending_eq (pend : Map Nat PendingEntry) : Gen.getPending pend = (pend.map (·.2), pend) := by
  simp only [Gen.getPending, foldl_snoc_map Prod.snd, List.nil_append]

theorem loop1_eq (self : Self) :
    ∀ (l : List PendingEntry) oks fails stack pend effs,
      addEntryInternal.join1.join2.join3.join4.loop1 self l oks fails stack pend effs = retry self l oks fails stack pend effs := by
  intro l
  induction l with
  | nil => intros; simp [addEntryInternal.join1.join2.join3.join4.loop1, retry]
  | cons e rest ih =>
    intro oks fails stack pend effs
    unfold addEntryInternal.join1.join2.join3.join4.loop1
    simp only [retry]
    cases h : (self e.ni e.op oks fails stack pend effs).1 with
    | none => simp [ih]
    | some err => simp


/-- the part of `addEntryInternal` after a successful table-level add (`join2` with no error and `installed`): the key that
is set is announced to the resolved-entry hook, then the held operations are retried. Of the three keys at most one is
set (`h`: an entry sets its own), so the order in which the code tests them does not matter -/
theorem join2_installed (self : Self) (ni : String) (op : AFTOperationC) (hookErr : Option Status) (noFwd : Bool)
    (oks fails : List RibOpResult) (stack : List Nat) (pend : Map Nat PendingEntry) (v4 v6 : String) (l : Nat)
    (effs : List Eff) (h : v4 = "" ∧ l = 0 ∨ v4 = "" ∧ v6 = "" ∨ l = 0 ∧ v6 = "") :
    addEntryInternal.join1.join2 self ni op hookErr noFwd oks fails stack pend none true v4 v6 l effs =
      match (if v4 ≠ "" then some (constants_IPv4, AnyKey.str v4) else if l ≠ 0 then some (constants_MPLS, .num l)
        else if v6 ≠ "" then some (constants_IPv6, .str v6) else none) with
      | some (aft, key) =>
        match hookErr with
        | some _ => (some ⟨.Unknown, .none⟩, oks ++ [⟨op.Id⟩], fails, op.Id :: stack, Map.erase pend op.Id,
            effs ++ [.resolvedHook constants_Add ni aft key])
        | none => retry self ((Map.erase pend op.Id).map (·.2)) (oks ++ [⟨op.Id⟩]) fails (op.Id :: stack)
            (Map.erase pend op.Id) (effs ++ [.resolvedHook constants_Add ni aft key])
      | none => retry self ((Map.erase pend op.Id).map (·.2)) (oks ++ [⟨op.Id⟩]) fails (op.Id :: stack)
          (Map.erase pend op.Id) effs := by
  simp only [addEntryInternal.join1.join2, addEntryInternal.join1.join2.join3, addEntryInternal.join1.join2.join3.join4,
    getPending_eq, loop1_eq, Gen.rmPending, if_true]
  rcases h with ⟨rfl, rfl⟩ | ⟨rfl, rfl⟩ | ⟨rfl, rfl⟩
  · by_cases h6 : v6 = "" <;> cases hookErr <;> simp [h6]
  · by_cases hl : l = 0 <;> cases hookErr <;> simp [hl]
  · by_cases h4 : v4 = "" <;> cases hookErr <;> simp [h4]

/-- `addEntryInternal` (one level of the recursion, for every `self`) = `addSpec` -/
theorem gen_addEntryInternal (self : Self) (ni : String) (op : AFTOperationC) (niKnown niValid : String → Bool) (done : Bool)
    (orig : Option Unit) (addErr hookErr : Option Status) (noFwd : Bool) (oks fails : List RibOpResult) (stack : List Nat)
    (pend : Map Nat PendingEntry) :
    Gen.addEntryInternal self ni op niKnown niValid done orig addErr hookErr noFwd oks fails stack pend =
      addSpec self ni op niKnown niValid done orig addErr hookErr noFwd oks fails stack pend := by
  -- the function's own order of tests: handled already, instance, REPLACE, entry kind, add error, installed;
  -- every leaf computes, except the one after a successful install
  have key : ∀ rep : Bool, rep = decide (op.Op = AFTOperation_REPLACE) → op.Id ∉ stack →
      niKnown ni = true → niValid ni = true →
      addEntryInternal.join1 self ni op done orig addErr hookErr noFwd oks fails stack pend ni rep [] =
        addSpec self ni op niKnown niValid done orig addErr hookErr noFwd oks fails stack pend := by
    intro rep hrep hs hk hv
    subst hrep
    unfold addSpec
    simp only [List.contains_iff_mem, hs, hk, hv]
    unfold addEntryInternal.join1
    cases op.Entry with
    | none => rfl
    | some e =>
      cases addErr with
      | some _ => cases e <;> rfl
      | none =>
        cases done with
        | false => cases e <;> cases noFwd <;> rfl
        | true =>
          -- an entry sets at most its own key: the three ways `join2` is called
          have inst {v4 v6 l effs} := join2_installed self ni op hookErr noFwd oks fails stack pend v4 v6 l effs
          simp only [inst (v6 := "") (l := 0) (.inr (.inr ⟨rfl, rfl⟩)), inst (v4 := "") (l := 0) (.inl ⟨rfl, rfl⟩),
            inst (v4 := "") (v6 := "") (.inr (.inl ⟨rfl, rfl⟩))]
          cases e <;> rfl
  unfold Gen.addEntryInternal
  by_cases hs : op.Id ∈ stack
  · simp [addSpec, hs]
  · by_cases hk : niKnown ni = true
    · by_cases hv : niValid ni = true
      · simp only [List.contains_iff_mem, hs, hk, hv, if_false, if_true]
        -- the flag is `decide (op.Op = REPLACE)` whichever way round the code writes the test (`omega`: symmetry)
        split <;> exact key _ (by simp only [true_eq_decide_iff, false_eq_decide_iff]; omega) hs hk hv
      · simp [addSpec, hs, hk, hv]
    · simp [addSpec, hs, hk]

section
variable (self : Self) (ni : String) (op : AFTOperationC) (niKnown niValid : String → Bool) (orig : Option Unit)
  (hookErr : Option Status) (noFwd : Bool) (oks fails : List RibOpResult) (stack : List Nat) (pend : Map Nat PendingEntry)

/-- an operation whose table-level add fails is answered FAILED once, is no longer held, is marked
as handled, and nothing else happens: no reference counter is touched, no notification is sent,
no held operation is retried -/
theorem add_failed (e : AFTEntry) (err : Status) (done : Bool) (hfresh : op.Id ∉ stack) (hk : niKnown ni = true) (hv : niValid ni = true)
    (he : op.Entry = some e) :
    Gen.addEntryInternal self ni op niKnown niValid done orig (some err) hookErr noFwd oks fails stack pend =
      (none, oks, fails ++ [⟨op.Id⟩], op.Id :: stack, Map.erase pend op.Id, [addEff ni (decide (op.Op = AFTOperation_REPLACE)) e]) := by
  rw [gen_addEntryInternal]
  simp [addSpec, hfresh, hk, hv, he]

/-- an operation that cannot be resolved yet is held under its id together with its network
instance, and is *not answered* (forward references allowed) -/
theorem add_held (e : AFTEntry) (hfresh : op.Id ∉ stack) (hk : niKnown ni = true) (hv : niValid ni = true) (he : op.Entry = some e) :
    Gen.addEntryInternal self ni op niKnown niValid false orig none hookErr false oks fails stack pend =
      (none, oks, fails, stack, Map.insert pend op.Id ⟨ni, op⟩, [addEff ni (decide (op.Op = AFTOperation_REPLACE)) e]) := by
  rw [gen_addEntryInternal]
  simp [addSpec, hfresh, hk, hv, he]

/-- … and is answered FAILED at once when forward references are disabled -/
theorem add_unresolved_nofwd (e : AFTEntry) (hfresh : op.Id ∉ stack) (hk : niKnown ni = true) (hv : niValid ni = true) (he : op.Entry = some e) :
    Gen.addEntryInternal self ni op niKnown niValid false orig none hookErr true oks fails stack pend =
      (none, oks, fails ++ [⟨op.Id⟩], stack, pend, [addEff ni (decide (op.Op = AFTOperation_REPLACE)) e]) := by
  rw [gen_addEntryInternal]
  simp [addSpec, hfresh, hk, hv, he]

/-- an installed operation is acknowledged first, its references are counted, it is no longer
held, and then **every** other held operation — of whatever network instance and table — is
retried, in the order of the map, with the acknowledgement already recorded (`hh`: the
resolved-entry hook, if it is called, does not fail) -/
theorem add_installed (e : AFTEntry) (hfresh : op.Id ∉ stack) (hk : niKnown ni = true) (hv : niValid ni = true) (he : op.Entry = some e)
    (hh : hookOf e = none ∨ hookErr = none) :
    Gen.addEntryInternal self ni op niKnown niValid true orig none hookErr noFwd oks fails stack pend =
      retry self ((Map.erase pend op.Id).map (·.2)) (oks ++ [⟨op.Id⟩]) fails (op.Id :: stack) (Map.erase pend op.Id)
        ([addEff ni (decide (op.Op = AFTOperation_REPLACE)) e] ++ refEff ni orig e ++
          (match hookOf e with
           | some (aft, key) => [Eff.resolvedHook constants_Add ni aft key]
           | none => [])) := by
  rw [gen_addEntryInternal]
  cases hookE : hookOf e with
  | none => simp [addSpec, hfresh, hk, hv, he, hookE]
  | some ak =>
    obtain ⟨aft, key⟩ := ak
    cases hh with
    | inl h => simp [hookE] at h
    | inr h => subst h; simp [addSpec, hfresh, hk, hv, he, hookE]

/-- an operation already handled in this call tree is not handled again -/
theorem add_once (done : Bool) (addErr : Option Status) (h : op.Id ∈ stack) :
    Gen.addEntryInternal self ni op niKnown niValid done orig addErr hookErr noFwd oks fails stack pend =
      (none, oks, fails, stack, pend, []) := by
  rw [gen_addEntryInternal]
  simp [addSpec, h]

end

/-- the retries keep what was acknowledged before them, in order: whatever `self` does, if it only
ever appends to the acknowledgements then so does the cascade -/
theorem retry_extends (self : Self)
    (hself : ∀ ni op oks fails stack pend effs, ∃ t, (self ni op oks fails stack pend effs).2.1 = oks ++ t) :
    ∀ (l : List PendingEntry) oks fails stack pend effs, ∃ t, (retry self l oks fails stack pend effs).2.1 = oks ++ t := by
  intro l oks fails stack pend effs
  fun_induction retry self l oks fails stack pend effs with
  | case1 => exact ⟨[], (List.append_nil _).symm⟩
  | case2 e _ oks fails stack pend effs _ _ ih =>
    obtain ⟨t1, h1⟩ := hself e.ni e.op oks fails stack pend effs
    obtain ⟨t2, h2⟩ := ih
    exact ⟨t1 ++ t2, by rw [h2, h1, List.append_assoc]⟩
  | case3 => exact hself ..

/-- `AddEntry`: an empty instance name is refused without touching anything; otherwise
`addEntryInternal` is called once and what it leaves in the two result lists (`oksOut`, `failsOut`) is
returned **as it is** (in acknowledgement order, nothing added, dropped or reordered) — or, on a
fatal error, nothing but the error -/
theorem gen_ribAddEntry (ni : String) (op : Option AFTOperationC) (oksOut failsOut : List RibOpResult) (intErr : Option Status) :
    Gen.ribAddEntry ni op oksOut failsOut intErr =
      if ni = "" then ([], [], some ⟨.Unknown, .none⟩, [])
      else match intErr with
        | none => (oksOut, failsOut, none, [Eff.addEntryInternal ni op])
        | some e => ([], [], some e, [Eff.addEntryInternal ni op]) := by
  unfold Gen.ribAddEntry
  by_cases h : ni = "" <;> cases intErr <;> simp [h]

theorem gen_ribadd_translated :
    Gen.addEntryInternal_problem = none ∧ Gen.getPending_problem = none ∧ Gen.addPending_problem = none ∧
    Gen.rmPending_problem = none ∧ Gen.ribAddEntry_problem = none := ⟨rfl, rfl, rfl, rfl, rfl⟩

end Gribi.GenEquiv.RibAdd
