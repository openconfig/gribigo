/-
The chain from the code to the model's `classify`, for an ADD / REPLACE:

  `addEntryInternal` (module RibAdd)  calls  `AddIPv4` … (module RibTable)  which call  `checkFn` =
  `canResolve` (module Rib).

Each link is a theorem about a definition regenerated from the Go source. Composed: the outcome
of the table-level add, with the translated `canResolve` as its semantic check, is the model's
`Rib.classify` — failed for good / held / installed (`table_classify`) — and `add_by_try` says what
`addEntryInternal` does with each outcome: answer FAILED and forget; hold without answering;
acknowledge, then retry everything held. These are the three cases of the model's `add`; that
comparison is by reading, no equation with `Rib.add` is stated here.

Likewise for a DELETE: `DeleteIPv4` … with the translated `canDelete` as its check is the model's
`classifyDel` (`table_classifyDel`).
-/
import Gribi.Props.GenEquiv.Rib
import Gribi.Props.GenEquiv.RibTable
import Gribi.Props.GenEquiv.RibAdd
namespace Gribi.GenEquiv.RibChain
open Gribi Gribi.Gen Gribi.GenEquiv Gribi.GenEquiv.RibTable Gribi.GenEquiv.RibAdd

/-- what the caller of a table-level add concludes from its three results -/
def tryOfResult (r : Bool × Option Unit × Option Status × List Eff) : Rib.Try :=
  if r.2.2.1.isSome then .err else if r.1 then .ok else .hold

/-- with the verdict `t` of its check and a merge that does not fail, the table-level add concludes `t`,
after its own two refusals -/
theorem tryOfResult_add (kind : Nat) (elems : NewAfts → List NewElem) (rep : Bool) (nr : Option NewRIB) (ex : Bool)
    (installed hook : Option Unit) (name : String) (t : Rib.Try) :
    tryOfResult (tableAddSpec kind elems false rep (some ()) nr ex installed (some ()) (tryOut t).1 (tryOut t).2
      none hook name) = if nr.isNone || rep && !ex then .err else t := by
  cases nr with
  | none => rfl
  | some _ => cases rep <;> cases ex <;> cases t <;> rfl

/-- the table-level add, with the translated `canResolve` as its check and a merge that does not
fail, decides exactly the model's `classify` (schema validation, explicit-replace existence,
resolution — in this order) -/
theorem table_classify (s : Rib) (op : Op) (d : NI) (hni : op.ni ≠ "") (hk : s.hasNI op.ni = true)
    (kind : Nat) (elems : NewAfts → List NewElem) (c : NewRIB) (installed hook : Option Unit) (name : String)
    (f1 f2 : String → Nat → Bool) :
    tryOfResult (tableAddSpec kind elems false (decide (op.ty = .replace)) (some ())
        (if op.cls = .wf then some c else none) (s.has (op.ni, op.key)) installed (some ())
        (Gen.canResolve op.ni (some (candOf op.key op.pl)) none d (fun n => s.hasNI n) (fun n g => s.has (n, .nhg g))
          (fun n i => s.has (n, .nh i)) f1 f2).1
        (Gen.canResolve op.ni (some (candOf op.key op.pl)) none d (fun n => s.hasNI n) (fun n g => s.has (n, .nhg g))
          (fun n i => s.has (n, .nh i)) f1 f2).2
        none hook name) = Rib.classify s op := by
  rw [gen_canResolve s d op.ni op.key op.pl hni hk, tryOfResult_add, classify_eq]
  by_cases hc : op.cls = .wf <;> simp [hc]

/-- what `addEntryInternal` does with each outcome of the table-level add (the add's three results as its
oracles), for every `self`, when the resolved-entry hook does not fail: the three cases of the model's
`add` on `classify` -/
theorem add_by_try (self : Self) (ni : String) (o : AFTOperationC) (e : AFTEntry) (niKnown niValid : String → Bool)
    (r : Bool × Option Unit × Option Status × List Eff) (hookErr : Option Status) (noFwd : Bool)
    (oks fails : List RibOpResult) (stack : List Nat) (pend : Map Nat PendingEntry)
    (hfresh : o.Id ∉ stack) (hk : niKnown ni = true) (hv : niValid ni = true) (he : o.Entry = some e)
    (hh : hookOf e = none ∨ hookErr = none) :
    Gen.addEntryInternal self ni o niKnown niValid r.1 r.2.1 r.2.2.1 hookErr noFwd oks fails stack pend =
      match tryOfResult r with
      | .err => (none, oks, fails ++ [⟨o.Id⟩], o.Id :: stack, Map.erase pend o.Id, [addEff ni (decide (o.Op = AFTOperation_REPLACE)) e])
      | .hold =>
        if noFwd then (none, oks, fails ++ [⟨o.Id⟩], stack, pend, [addEff ni (decide (o.Op = AFTOperation_REPLACE)) e])
        else (none, oks, fails, stack, Map.insert pend o.Id ⟨ni, o⟩, [addEff ni (decide (o.Op = AFTOperation_REPLACE)) e])
      | .ok =>
        retry self ((Map.erase pend o.Id).map (·.2)) (oks ++ [⟨o.Id⟩]) fails (o.Id :: stack) (Map.erase pend o.Id)
          ([addEff ni (decide (o.Op = AFTOperation_REPLACE)) e] ++ refEff ni r.2.1 e ++
            (match hookOf e with
             | some (aft, key) => [Eff.resolvedHook constants_Add ni aft key]
             | none => [])) := by
  obtain ⟨done, orig, err, effs⟩ := r
  cases err with
  | some x => exact add_failed (hfresh := hfresh) (hk := hk) (hv := hv) (he := he) ..
  | none =>
    cases done with
    | true => exact add_installed (hfresh := hfresh) (hk := hk) (hv := hv) (he := he) (hh := hh) ..
    | false =>
      cases noFwd with
      | true => exact add_unresolved_nofwd (hfresh := hfresh) (hk := hk) (hv := hv) (he := he) ..
      | false => exact add_held (hfresh := hfresh) (hk := hk) (hv := hv) (he := he) ..


/-- what the caller of a table-level delete concludes from its three results -/
def dtryOfResult (r : Bool × Option Unit × Option Status × List Eff) : Rib.DTry :=
  if r.2.2.1.isSome then .err else if !r.1 then .refd else if r.2.1.isSome then .ok else .absent

/-- the kind's own refusal of a key that names nothing -/
def preErrOf : Key → Bool
  | .mpls l => decide (l > Rib.maxLabel)
  | .nhg g => decide (g = 0)
  | .nh i => decide (i = 0)
  | _ => false

/-- with the verdict `t` of its check, the table-level delete concludes `t` after its own refusal, except that
it tells a removed entry from one that was not installed by looking in the table itself -/
theorem dtryOfResult_del (kind : Nat) (pre useKeyErr : Bool) (inst hook : Option Unit) (name : String) (t : Rib.DTry) :
    dtryOfResult (tableDelSpec kind pre useKeyErr false (some ()) inst none (some ()) (dtryOut t).1 (dtryOut t).2
      hook name) =
      if pre then .err else match t with
        | .err => .err
        | .refd => .refd
        | _ => if inst.isSome then .ok else .absent := by
  cases pre <;> cases useKeyErr <;> cases t <;> rfl

/-- the table-level delete of a well-formed request, with the translated `canDelete` as its check,
decides exactly the model's `classifyDel` (refused / still referenced / not installed / removed) -/
theorem table_classifyDel (s : Rib) (op : Op) (d : NI) (hni : op.ni ≠ "") (hk : s.hasNI op.ni = true) (hc : op.cls = .wf)
    (kind : Nat) (useKeyErr : Bool) (hook : Option Unit) (name : String) :
    dtryOfResult (tableDelSpec kind (preErrOf op.key) useKeyErr false (some ())
        (if s.has (op.ni, op.key) then some () else none) none (some ())
        (Gen.canDelete op.ni (some (candOf op.key op.pl)) none d (fun n => s.hasNI n) (fun n g => s.has (n, .nhg g))
          (fun n i => s.has (n, .nh i)) (fun n g => decide (Rib.cnt s.nhgRef (n, g) > 0))
          (fun n i => decide (Rib.cnt s.nhRef (n, i) > 0))).1
        (Gen.canDelete op.ni (some (candOf op.key op.pl)) none d (fun n => s.hasNI n) (fun n g => s.has (n, .nhg g))
          (fun n i => s.has (n, .nh i)) (fun n g => decide (Rib.cnt s.nhgRef (n, g) > 0))
          (fun n i => decide (Rib.cnt s.nhRef (n, i) > 0))).2
        hook name) = Rib.classifyDel s op := by
  rw [gen_canDelete s d op.ni op.key op.pl hni hk, dtryOfResult_del, classifyDel_eq, if_neg (not_not_intro hc)]
  -- key by key: the table's refusal is `delTry`'s own (or the label test), and `delTry` says `ok` of an
  -- installed key only, `absent` of one that is not
  cases op.key with
  | v4 p | v6 p => cases h : s.has _ <;> simp [preErrOf, delTry, h]
  | mpls l => by_cases hl : l > Rib.maxLabel <;> cases h : s.has (op.ni, Key.mpls l) <;> simp [preErrOf, delTry, h, hl]
  | nhg g =>
    by_cases hg : g = 0
    · simp [preErrOf, delTry, hg]
    · cases h : s.has (op.ni, Key.nhg g)
      · simp [preErrOf, delTry, h, hg]
      · by_cases hr : Rib.cnt s.nhgRef (op.ni, g) > 0 <;> simp [preErrOf, delTry, h, hg, hr]
  | nh i =>
    by_cases hi : i = 0
    · simp [preErrOf, delTry, hi]
    · cases h : s.has (op.ni, Key.nh i)
      · simp [preErrOf, delTry, h, hi]
      · by_cases hr : Rib.cnt s.nhRef (op.ni, i) > 0 <;> simp [preErrOf, delTry, h, hi, hr]

end Gribi.GenEquiv.RibChain
