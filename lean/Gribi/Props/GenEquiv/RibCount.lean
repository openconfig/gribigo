/-
The reference counters of a `RIBHolder` (rib/rib.go): `incNHGRefCount`, `decNHGRefCount`,
`nhgReferenced`, `incNHRefCount`, `decNHRefCount`, `nhReferenced` (Go maps of `uint64` counters, a
missing key reading as 0, arithmetic modulo 2^64) and `refdRIB`, the lookup of the instance in
which an entry's group lives. The theorems say that they are the model's `Rib.cnt` / `Rib.inc` /
`Rib.dec` on the instance's share of the model's counter map (`Agrees`), and the model's
`Rib.tgtNI` guarded by `hasNI`.
-/
import Gribi.Gen.IncNHGRefCount
import Gribi.Gen.DecNHGRefCount
import Gribi.Gen.NhgReferenced
import Gribi.Gen.IncNHRefCount
import Gribi.Gen.DecNHRefCount
import Gribi.Gen.NhReferenced
import Gribi.Gen.RefdRIB
import Gribi.Lemmas.Counters
namespace Gribi.GenEquiv.RibCount
open Gribi Gribi.Gen

def cntOf (c : Map Nat Nat) (i : Nat) : Nat := (Map.get? c i).getD 0

/-- the code's map of one instance holds the model's counters of that instance -/
def Agrees (c : Map Nat Nat) (m : Map (NI × Nat) Nat) (ni : NI) : Prop :=
  ∀ j, cntOf c j = Rib.cnt m (ni, j)

theorem cntOf_insert (c : Map Nat Nat) (i j v : Nat) :
    cntOf (Map.insert c i v) j = if i = j then v else cntOf c j :=
  Map.getD_get?_insert c i j v 0

/-- `hb`: below 2^64 - 1, where Go's `++` wraps -/
theorem gen_inc (i : Nat) (c : Map Nat Nat) (hb : cntOf c i < 18446744073709551615) (j : Nat) :
    cntOf (Gen.incNHGRefCount i c) j = if i = j then cntOf c i + 1 else cntOf c j := by
  rw [Gen.incNHGRefCount, cntOf_insert, incU64, ← cntOf, if_neg (Nat.ne_of_lt hb)]

/-- `decNHGRefCount` takes one off the counter of `i` unless it is 0 (it never wraps) -/
theorem gen_dec (i : Nat) (c : Map Nat Nat) (j : Nat) :
    cntOf (Gen.decNHGRefCount i c) j = if i = j then cntOf c i - 1 else cntOf c j := by
  rw [Gen.decNHGRefCount, ← cntOf]
  -- by the answer of the code's one test, however it is written: a counter at 0 is left alone (and 0 - 1 = 0)
  by_cases h0 : cntOf c i = 0
  · simpa [h0] using fun h => h ▸ h0
  · simp [h0, cntOf_insert, decU64]

theorem gen_referenced (i : Nat) (c : Map Nat Nat) :
    Gen.nhgReferenced i c = (decide (cntOf c i > 0), c) := rfl

theorem nh_same (i : Nat) (c : Map Nat Nat) :
    Gen.incNHRefCount i c = Gen.incNHGRefCount i c ∧ Gen.decNHRefCount i c = Gen.decNHGRefCount i c ∧
    Gen.nhReferenced i c = Gen.nhgReferenced i c := by
  -- the two decrements make the same test, each written in its own way
  refine ⟨rfl, ?_, rfl⟩
  unfold Gen.decNHRefCount Gen.decNHGRefCount
  by_cases h0 : (Map.get? c i).getD 0 = 0 <;> simp [h0]

/-- **the counters are the model's**: on the share of instance `ni`, `incNHGRefCount` is `Rib.inc` (below 2^64 - 1) -/
theorem inc_model (c : Map Nat Nat) (m : Map (NI × Nat) Nat) (ni : NI) (i : Nat) (h : Agrees c m ni)
    (hb : Rib.cnt m (ni, i) < 18446744073709551615) :
    Agrees (Gen.incNHGRefCount i c) (Rib.inc m (ni, i)) ni := by
  intro j
  rw [gen_inc i c (h i ▸ hb) j, Rib.cnt_inc, h, h]
  by_cases hij : i = j <;> simp [hij, eq_comm]

/-- … `decNHGRefCount` is `Rib.dec` (which refuses to go below zero, as the code does) -/
theorem dec_model (c : Map Nat Nat) (m : Map (NI × Nat) Nat) (ni : NI) (i : Nat) (h : Agrees c m ni) :
    Agrees (Gen.decNHGRefCount i c) (Rib.dec m (ni, i)) ni := by
  intro j
  rw [gen_dec i c j, Rib.cnt_dec, h, h]
  by_cases hij : i = j <;> simp [hij, eq_comm]

/-- … and a change to another instance's share does not touch this one's -/
theorem other_instance (c : Map Nat Nat) (m : Map (NI × Nat) Nat) (ni ni' : NI) (i : Nat) (hne : ni' ≠ ni)
    (h : Agrees c m ni) : Agrees c (Rib.inc m (ni', i)) ni ∧ Agrees c (Rib.dec m (ni', i)) ni :=
  ⟨fun j => by rw [Rib.cnt_inc]; simp [Ne.symm hne, h j], fun j => by rw [Rib.cnt_dec]; simp [Ne.symm hne, h j]⟩

theorem referenced_model (c : Map Nat Nat) (m : Map (NI × Nat) Nat) (ni : NI) (i : Nat) (h : Agrees c m ni) :
    (Gen.nhgReferenced i c).1 = decide (Rib.cnt m (ni, i) > 0) := by
  rw [gen_referenced, h i]

theorem gen_refdRIB (ni ref : String) (known : String → Bool) :
    Gen.refdRIB ni ref known =
      if ref = "" then (some ni, none)
      else if known ref then (some ref, none)
      else (none, some ⟨GCode.InvalidArgument, Details.none⟩) := by
  unfold Gen.refdRIB
  by_cases h : ref = "" <;> by_cases hk : known ref = true <;> simp [h, hk]

/-- on the model: the holder found is `Rib.tgtNI`, found exactly when the model has that instance -/
theorem refdRIB_model (s : Rib) (ni : NI) (p : Payload) (hni : s.hasNI ni = true) :
    Gen.refdRIB ni p.grpNI s.hasNI =
      if s.hasNI (Rib.tgtNI ni p) then (some (Rib.tgtNI ni p), none)
      else (none, some ⟨GCode.InvalidArgument, Details.none⟩) := by
  rw [gen_refdRIB]
  unfold Rib.tgtNI
  by_cases h : p.grpNI = "" <;> simp [h, hni]

theorem gen_ribcount_translated :
    Gen.incNHGRefCount_problem = none ∧ Gen.decNHGRefCount_problem = none ∧ Gen.nhgReferenced_problem = none ∧
    Gen.incNHRefCount_problem = none ∧ Gen.decNHRefCount_problem = none ∧ Gen.nhReferenced_problem = none ∧
    Gen.refdRIB_problem = none := ⟨rfl, rfl, rfl, rfl, rfl, rfl, rfl⟩

end Gribi.GenEquiv.RibCount
