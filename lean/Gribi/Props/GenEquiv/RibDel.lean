/-
The RIB's orchestration of a DELETE (rib/rib.go `DeleteEntry`). `gen_deleteEntry` (= `delSpec`) holds
for every outcome of the table-level `DeleteXXX` call (`removed`, the removed entry, an error), of
`refdRIB`, of the resolved-entry hook, and every order of the removed group's next-hop map.
-/
import Gribi.Gen.DeleteEntry
import Gribi.Props.GenEquiv.Loop
namespace Gribi.GenEquiv.RibDel
open Gribi Gribi.Gen

def delEff (ni : String) : AFTEntry → Eff
  | .Ipv4 e => .delIPv4 ni e
  | .Ipv6 e => .delIPv6 ni e
  | .Mpls e => .delMPLS ni e
  | .NextHopGroup e => .delNHG ni e
  | .NextHop e => .delNH ni e

/-- what a successful delete of an entry of this kind still has to do: for a top-level entry that
was installed, the table and key to announce; for a group, its members -/
inductive After where
  | top (aft : Nat) (key : AnyKey) (o : OrigTop)
  | nhg (g : OrigNHG)
  | nothing

def afterOf (origTop : Option OrigTop) (origNHG : Option OrigNHG) : AFTEntry → After
  | .Ipv4 _ => match origTop with | some o => .top constants_IPv4 (.str o.Prefix) o | none => .nothing
  | .Ipv6 _ => match origTop with | some o => .top constants_IPv6 (.str o.Prefix) o | none => .nothing
  | .Mpls _ => match origTop with | some o => .top constants_MPLS (.num o.Label) o | none => .nothing
  | .NextHopGroup _ => match origNHG with | some g => .nhg g | none => .nothing
  | .NextHop _ => .nothing

def delSpec (ni : String) (op : Option AFTOperationC) (niKnown niValid : String → Bool) (removed : Bool)
    (origTop : Option OrigTop) (origNHG : Option OrigNHG) (delErr : Option Status) (refName : String → String → String)
    (refErr : String → String → Option Status) (hookErr : Option Status) :
    List RibOpResult × List RibOpResult × Option Status × List Eff :=
  if !(niKnown ni && niValid ni) then ([], [], some ⟨.Unknown, .none⟩, [])
  else match op with
    | none => ([], [], some ⟨.InvalidArgument, .none⟩, [])
    | some op =>
      match op.Entry with
      | none => ([], [], some ⟨.InvalidArgument, .none⟩, [])
      | some e =>
        let call := [delEff ni e]
        match delErr with
        | some _ => ([], [⟨op.Id⟩], none, call)                 -- refused: answered FAILED, nothing else
        | none =>
          if !removed then ([], [⟨op.Id⟩], none, call)          -- still referenced: answered FAILED
          else match afterOf origTop origNHG e with
            | .nothing => ([⟨op.Id⟩], [], none, call)            -- was not installed (or a next-hop): acknowledged
            | .nhg g => ([⟨op.Id⟩], [], none, call ++ g.NextHop.map (fun m => Eff.decNHRef ni m.Key))
            | .top aft key o =>
              -- the entry is gone: its group gives back one reference — unless the group's instance
              -- is one the RIB does not know (possible only without the check function), where there
              -- is no counter; the DELETE is acknowledged and announced either way
              let effs := call ++
                (match refErr ni o.NextHopGroupNetworkInstance with
                 | some _ => []
                 | none => [Eff.decNHGRef (refName ni o.NextHopGroupNetworkInstance) o.NextHopGroup]) ++
                [Eff.resolvedHook constants_Delete ni aft key]
              match hookErr with
              | none => ([⟨op.Id⟩], [], none, effs)
              | some _ => ([⟨op.Id⟩], [], some ⟨.Unknown, .none⟩, effs)

theorem loop1_eq (ni niR : String) (hookErr : Option Status) (op : AFTOperationC) :
    ∀ (l : List OrigNHGMember) (effs : List Eff),
      deleteEntry.join1.loop1 ni hookErr niR op l effs =
        ([⟨op.Id⟩], [], none, effs ++ l.map (fun m => Eff.decNHRef niR m.Key)) := by
  simp only [List.map_eq_flatMap]
  exact loop_append (loop := deleteEntry.join1.loop1 ni hookErr niR op) (fun _ => rfl) (fun _ _ _ => rfl)

theorem gen_deleteEntry (ni : String) (op : Option AFTOperationC) (niKnown niValid : String → Bool) (removed : Bool)
    (origTop : Option OrigTop) (origNHG : Option OrigNHG) (delErr : Option Status) (refName : String → String → String)
    (refErr : String → String → Option Status) (hookErr : Option Status) :
    Gen.deleteEntry ni op niKnown niValid removed origTop origNHG delErr refName refErr hookErr =
      delSpec ni op niKnown niValid removed origTop origNHG delErr refName refErr hookErr := by
  -- the function's own order of tests: instance, operation, entry, delete error, removed, then per kind
  unfold Gen.deleteEntry delSpec
  by_cases hk : niKnown ni = true
  · by_cases hv : niValid ni = true
    · simp only [hk, hv, if_true, Bool.and_self, Bool.not_true, Bool.false_eq_true, if_false]
      cases op with
      | none => rfl
      | some o =>
        obtain ⟨oid, oop, oent⟩ := o
        cases oent with
        | none => rfl
        | some e =>
          cases delErr with
          | some _ => cases e <;> rfl
          | none =>
            cases removed with
            | false => cases e <;> rfl
            | true =>
              cases e with
              | Ipv4 x | Ipv6 x | Mpls x => cases origTop with
                | none => rfl
                | some o =>
                  simp only [deleteEntry.join1, afterOf]
                  cases refErr ni o.NextHopGroupNetworkInstance <;> cases hookErr <;> rfl
              | NextHopGroup x => cases origNHG with
                | none => rfl
                | some g => simp [deleteEntry.join1, loop1_eq, afterOf, delEff]
              | NextHop x => rfl
    · simp [hk, hv]
  · simp [hk]

/-- a refused delete, or one of an entry that is still referenced, is answered FAILED and nothing
else happens: no counter is decremented and nothing is announced -/
theorem del_failed (ni : String) (o : AFTOperationC) (e : AFTEntry) (niKnown niValid : String → Bool) (removed : Bool)
    (origTop : Option OrigTop) (origNHG : Option OrigNHG) (delErr : Option Status) (refName : String → String → String)
    (refErr : String → String → Option Status) (hookErr : Option Status)
    (hk : niKnown ni = true) (hv : niValid ni = true) (he : o.Entry = some e) (h : delErr.isSome ∨ removed = false) :
    Gen.deleteEntry ni (some o) niKnown niValid removed origTop origNHG delErr refName refErr hookErr =
      ([], [⟨o.Id⟩], none, [delEff ni e]) := by
  rw [gen_deleteEntry]
  cases delErr with
  | some err => simp [delSpec, hk, hv, he]
  | none =>
    have : removed = false := by simpa using h
    simp [delSpec, hk, hv, he, this]

/-- a removed group gives back one reference per member of the *installed* group, whatever the
order of its map, and is not announced to the resolved-entry hook -/
theorem del_group (ni : String) (o : AFTOperationC) (x : Option NHGEntryC) (g : OrigNHG) (niKnown niValid : String → Bool)
    (origTop : Option OrigTop) (refName : String → String → String) (refErr : String → String → Option Status) (hookErr : Option Status)
    (hk : niKnown ni = true) (hv : niValid ni = true) (he : o.Entry = some (.NextHopGroup x)) :
    Gen.deleteEntry ni (some o) niKnown niValid true origTop (some g) none refName refErr hookErr =
      ([⟨o.Id⟩], [], none, [Eff.delNHG ni x] ++ g.NextHop.map (fun m => Eff.decNHRef ni m.Key)) := by
  rw [gen_deleteEntry]
  simp [delSpec, hk, hv, he, afterOf, delEff]

/-- a DELETE that has removed an IPv4, IPv6 or MPLS entry is acknowledged and announced whatever the
lookup of the group's instance says (the repair of D24: before it, an unknown instance — reachable
without the check function — made `DeleteEntry` return an error *after* the entry was gone). Stated
for a hook that does not fail; that the counter is given back exactly when the instance is known
is in `delSpec`, not here -/
theorem del_removed_top (ni : String) (o : AFTOperationC) (e : AFTEntry) (niKnown niValid : String → Bool)
    (t : OrigTop) (origNHG : Option OrigNHG) (refName : String → String → String) (refErr : String → String → Option Status)
    (aft : Nat) (key : AnyKey)
    (hk : niKnown ni = true) (hv : niValid ni = true) (he : o.Entry = some e) (ha : afterOf (some t) origNHG e = .top aft key t) :
    (Gen.deleteEntry ni (some o) niKnown niValid true (some t) origNHG none refName refErr none).1 = [⟨o.Id⟩] ∧
    (Gen.deleteEntry ni (some o) niKnown niValid true (some t) origNHG none refName refErr none).2.1 = [] ∧
    (Gen.deleteEntry ni (some o) niKnown niValid true (some t) origNHG none refName refErr none).2.2.1 = none ∧
    Eff.resolvedHook constants_Delete ni aft key ∈
      (Gen.deleteEntry ni (some o) niKnown niValid true (some t) origNHG none refName refErr none).2.2.2 := by
  rw [gen_deleteEntry]
  simp [delSpec, hk, hv, he, ha]

theorem gen_ribdel_translated : Gen.deleteEntry_problem = none := rfl

end Gribi.GenEquiv.RibDel
