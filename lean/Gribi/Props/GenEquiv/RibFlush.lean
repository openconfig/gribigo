/-
`rib.RIB.Flush` (rib/rib.go): what a flush of a list of network instances does, as the sequence of
calls it makes on the instances' tables and counters. A RIBHolder is represented by the name of its
instance; the tables are read where the Go code ranges over them (`v4 ni`, `v6 ni`, `mpls ni`,
`nhgs ni`, and — after the backup groups have been deleted — `nhgsRest ni`, then `nhs ni`); the
results of the deletes are oracles. `gen_ribFlush` gives the sequence for every list of instances,
every content of the tables and every outcome of the deletes:

* every IPv4, then every IPv6, then every MPLS entry of the instance: the reference it holds on its
  next-hop-group is given back (in the instance the entry names, when that instance can be found)
  and the entry is deleted;
* then the groups that are the backup of an installed group and are themselves installed, each once;
* then every group still in the table; then every next-hop;
* the errors of the deletes are collected, and the flush fails exactly when there is one.
-/
import Gribi.Gen.RibFlush
import Gribi.Props.GenEquiv.Loop
import Gribi.Props.GenEquiv.Firsts
namespace Gribi.GenEquiv.RibFlush
open Gribi Gribi.Gen

section
variable (refName : String → String → String) (refErr : String → String → Option Status)

/-- the calls for one IPv4 / IPv6 / MPLS entry: give the group's reference back, delete the entry -/
def topEffs {κ : Type} (del : String → κ → Eff) (ni : String) (e : κ × OrigTop) : List Eff :=
  (match refErr ni e.2.NextHopGroupNetworkInstance with
   | none => [Eff.decNHGRef (refName ni e.2.NextHopGroupNetworkInstance) e.2.NextHopGroup]
   | some _ => []) ++ [del ni e.1]

/-- one step of the search for backup groups: `(seen, backups so far)` -/
def backupStep (m : Map Nat FlNHG) (st : List Nat × List Nat) (e : Nat × FlNHG) : List Nat × List Nat :=
  match e.2.BackupNextHopGroup with
  | none => st
  | some id => if (Map.get? m id).isSome && !st.1.contains id then (id :: st.1, st.2 ++ [id]) else st

/-- the backup groups that `Flush` deletes first -/
def backupsOf (m : Map Nat FlNHG) : List Nat := (m.foldl (backupStep m) ([], [])).2
end

/-- six of the loops of `Flush` are this one: delete each element, keep the error if there is one -/
theorem delLoop {α ρ : Type} {loop : List α → List Status → List Eff → ρ ⊕ (List Status × List Eff)}
    {err : α → Option Status} {eff : α → List Eff} (nil : ∀ a b, loop [] a b = Sum.inr (a, b))
    (cons : ∀ x t a b, loop (x :: t) a b =
      match err x with
      | none => loop t a (b ++ eff x)
      | some p => loop t (a ++ [p]) (b ++ eff x)) (l : List α) (a : List Status) (b : List Eff) :
    loop l a b = Sum.inr (a ++ l.filterMap err, b ++ l.flatMap eff) := by
  rw [← flatMap_toList]
  exact loop_append₂ nil (fun x t a b => by rw [cons]; cases err x <;> simp) l a b

theorem loop2_eq (refName : String → String → String) (refErr del : String → String → Option Status) (ni : String) :
    ∀ (l : List (String × OrigTop)) (errs : List Status) (effs : List Eff),
      ribFlush.loop1.loop2 refName refErr del ni l errs effs =
        Sum.inr (errs ++ l.filterMap (fun e => del ni e.1),
                 effs ++ l.flatMap (topEffs refName refErr (Eff.flDelStr 4) ni)) :=
  delLoop (fun _ _ => rfl) fun e _ _ _ => by
    rw [ribFlush.loop1.loop2, topEffs]; cases refErr ni e.2.NextHopGroupNetworkInstance <;> rfl

theorem loop3_eq (refName : String → String → String) (refErr del : String → String → Option Status) (ni : String) :
    ∀ (l : List (String × OrigTop)) (errs : List Status) (effs : List Eff),
      ribFlush.loop1.loop3 refName refErr del ni l errs effs =
        Sum.inr (errs ++ l.filterMap (fun e => del ni e.1),
                 effs ++ l.flatMap (topEffs refName refErr (Eff.flDelStr 6) ni)) :=
  delLoop (fun _ _ => rfl) fun e _ _ _ => by
    rw [ribFlush.loop1.loop3, topEffs]; cases refErr ni e.2.NextHopGroupNetworkInstance <;> rfl

theorem loop4_eq (refName : String → String → String) (refErr : String → String → Option Status)
    (del : String → Nat → Option Status) (ni : String) :
    ∀ (l : List (Nat × OrigTop)) (errs : List Status) (effs : List Eff),
      ribFlush.loop1.loop4 refName refErr del ni l errs effs =
        Sum.inr (errs ++ l.filterMap (fun e => del ni e.1),
                 effs ++ l.flatMap (topEffs refName refErr (Eff.flDelNat 1) ni)) :=
  delLoop (fun _ _ => rfl) fun e _ _ _ => by
    rw [ribFlush.loop1.loop4, topEffs]; cases refErr ni e.2.NextHopGroupNetworkInstance <;> rfl

theorem loop5_eq (nhgs : String → Map Nat FlNHG) (ni : String) :
    ∀ (l : List (Nat × FlNHG)) (seen bk : List Nat) (effs : List Eff),
      ribFlush.loop1.loop5 nhgs ni l seen bk effs =
        Sum.inr ((l.foldl (backupStep (nhgs ni)) (seen, bk)).1, (l.foldl (backupStep (nhgs ni)) (seen, bk)).2, effs) :=
  fun l seen bk effs =>
    loop_fold (loop := fun l st => ribFlush.loop1.loop5 nhgs ni l st.1 st.2 effs) (k := fun st => Sum.inr (st.1, st.2, effs))
      (fun _ => rfl) (fun e _ st => by
        rw [ribFlush.loop1.loop5, backupStep]
        cases e.2.BackupNextHopGroup with
        | none => rfl
        | some id =>
          dsimp only
          -- by the answers of both tests, in whichever order the code makes them
          cases Map.get? (nhgs ni) id <;> cases st.1.contains id <;> rfl) l (seen, bk)

theorem loop6_eq (del : String → Nat → Option Status) (ni : String) :
    ∀ (l : List Nat) (errs : List Status) (effs : List Eff),
      ribFlush.loop1.loop6 del ni l errs effs =
        Sum.inr (errs ++ l.filterMap (fun id => del ni id), effs ++ l.map (Eff.flDelNat 2 ni)) := by
  simp only [List.map_eq_flatMap]
  exact delLoop (fun _ _ => rfl) fun _ _ _ _ => rfl

theorem loop7_eq (del : String → Nat → Option Status) (ni : String) :
    ∀ (l : List (Nat × FlNHG)) (errs : List Status) (effs : List Eff),
      ribFlush.loop1.loop7 del ni l errs effs =
        Sum.inr (errs ++ l.filterMap (fun e => del ni e.1), effs ++ l.map (fun e => Eff.flDelNat 2 ni e.1)) := by
  simp only [List.map_eq_flatMap]
  exact delLoop (fun _ _ => rfl) fun _ _ _ _ => rfl

theorem loop8_eq (del : String → Nat → Option Status) (ni : String) :
    ∀ (l : List (Nat × Unit)) (errs : List Status) (effs : List Eff),
      ribFlush.loop1.loop8 del ni l errs effs =
        Sum.inr (errs ++ l.filterMap (fun e => del ni e.1), effs ++ l.map (fun e => Eff.flDelNat 3 ni e.1)) := by
  simp only [List.map_eq_flatMap]
  exact delLoop (fun _ _ => rfl) fun _ _ _ _ => rfl

def backupOf (m : Map Nat FlNHG) (e : Nat × FlNHG) : Option Nat :=
  e.2.BackupNextHopGroup.filter (fun id => (Map.get? m id).isSome)

/-- the search is the first-occurrences walk (`RibRef.firsts`) over the backups that are installed (`backupOf`) -/
theorem backup_fold (m : Map Nat FlNHG) : ∀ (l : List (Nat × FlNHG)) (seen bk : List Nat),
    (l.foldl (backupStep m) (seen, bk)).2 = bk ++ RibRef.firsts seen (l.filterMap (backupOf m))
  | [], seen, bk => by simp [RibRef.firsts]
  | e :: t, seen, bk => by
    rw [List.foldl_cons, List.filterMap_cons, backupStep, backupOf]
    cases e.2.BackupNextHopGroup with
    | none => exact backup_fold m t seen bk
    | some id =>
      cases hm : (Map.get? m id).isSome with
      | false => simpa [hm, Option.filter_some] using backup_fold m t seen bk
      | true =>
        by_cases hs : id ∈ seen
        · simpa [hm, hs, Option.filter_some, RibRef.firsts] using backup_fold m t seen bk
        · simpa [hm, hs, Option.filter_some, RibRef.firsts] using backup_fold m t (id :: seen) (bk ++ [id])

/-- the groups deleted first are exactly the installed groups that are the backup of an installed
group -/
theorem mem_backupsOf (m : Map Nat FlNHG) (id : Nat) :
    id ∈ backupsOf m ↔ (∃ e ∈ m, e.2.BackupNextHopGroup = some id) ∧ (Map.get? m id).isSome = true := by
  rw [backupsOf, backup_fold, List.nil_append, RibRef.mem_firsts]
  simp only [List.mem_filterMap, backupOf, Option.filter_eq_some_iff, List.not_mem_nil, not_false_eq_true, and_true]
  constructor
  · rintro ⟨e, he, h1, h2⟩; exact ⟨⟨e, he, h1⟩, h2⟩
  · rintro ⟨⟨e, he, h1⟩, h2⟩; exact ⟨e, he, h1, h2⟩

/-- each of them once -/
theorem backupsOf_nodup (m : Map Nat FlNHG) : (backupsOf m).Nodup := by
  rw [backupsOf, backup_fold, List.nil_append]; exact RibRef.nodup_firsts _ _

/-- the instance whose table a call of `Flush` deletes from -/
def delNI : Eff → Option String
  | .flDelStr _ ni _ => some ni
  | .flDelNat _ ni _ => some ni
  | _ => none

def IsFlushCall (n : String) (eff : Eff) : Prop := (∃ t g, eff = Eff.decNHGRef t g) ∨ delNI eff = some n

theorem mem_topEffs {κ : Type} (refName : String → String → String) (refErr : String → String → Option Status)
    (del : String → κ → Eff) (ni : String) (e : κ × OrigTop) (eff : Eff) :
    eff ∈ topEffs refName refErr del ni e ↔
      (refErr ni e.2.NextHopGroupNetworkInstance = none ∧
        eff = Eff.decNHGRef (refName ni e.2.NextHopGroupNetworkInstance) e.2.NextHopGroup) ∨ eff = del ni e.1 := by
  rw [topEffs]; cases refErr ni e.2.NextHopGroupNetworkInstance <;> simp

section
variable (v4 v6 : String → Map String OrigTop) (mpls : String → Map Nat OrigTop)
  (nhgs nhgsRest : String → Map Nat FlNHG) (nhs : String → Map Nat Unit)
  (refName : String → String → String) (refErr : String → String → Option Status)
  (del4 del6 : String → String → Option Status) (delM delG delH : String → Nat → Option Status)

def niEffs (ni : String) : List Eff :=
  (v4 ni).flatMap (topEffs refName refErr (Eff.flDelStr 4) ni) ++
  (v6 ni).flatMap (topEffs refName refErr (Eff.flDelStr 6) ni) ++
  (mpls ni).flatMap (topEffs refName refErr (Eff.flDelNat 1) ni) ++
  (backupsOf (nhgs ni)).map (Eff.flDelNat 2 ni) ++
  (nhgsRest ni).map (fun e => Eff.flDelNat 2 ni e.1) ++
  (nhs ni).map (fun e => Eff.flDelNat 3 ni e.1)

def niErrs (ni : String) : List Status :=
  (v4 ni).filterMap (fun e => del4 ni e.1) ++
  (v6 ni).filterMap (fun e => del6 ni e.1) ++
  (mpls ni).filterMap (fun e => delM ni e.1) ++
  (backupsOf (nhgs ni)).filterMap (fun id => delG ni id) ++
  (nhgsRest ni).filterMap (fun e => delG ni e.1) ++
  (nhs ni).filterMap (fun e => delH ni e.1)

theorem loop1_eq :
    ∀ (l : List String) (errs : List Status) (effs : List Eff),
      ribFlush.loop1 v4 v6 mpls nhgs nhgsRest nhs refName refErr del4 del6 delM delG delH l errs effs =
        Sum.inr (errs ++ l.flatMap (niErrs v4 v6 mpls nhgs nhgsRest nhs del4 del6 delM delG delH),
                 effs ++ l.flatMap (niEffs v4 v6 mpls nhgs nhgsRest nhs refName refErr)) :=
  loop_append₂ (fun _ _ => rfl) fun ni _ _ _ => by
    rw [ribFlush.loop1]
    simp only [loop2_eq, loop3_eq, loop4_eq, loop5_eq, loop6_eq, loop7_eq, loop8_eq, niErrs, niEffs, backupsOf,
      List.append_assoc]

/-- **`Flush`**: the calls it makes are those of each instance in turn, and it fails exactly when
one of the deletes did, with their errors in order -/
theorem gen_ribFlush (nis : List String) :
    Gen.ribFlush nis v4 v6 mpls nhgs nhgsRest nhs refName refErr del4 del6 delM delG delH =
      (let errs := nis.flatMap (niErrs v4 v6 mpls nhgs nhgsRest nhs del4 del6 delM delG delH)
       if errs = [] then none else some ⟨errs⟩,
       nis.flatMap (niEffs v4 v6 mpls nhgs nhgsRest nhs refName refErr)) := by
  unfold Gen.ribFlush
  simp only [loop1_eq, List.nil_append]
  cases nis.flatMap (niErrs v4 v6 mpls nhgs nhgsRest nhs del4 del6 delM delG delH) <;> rfl

theorem mem_niEffs (ni : String) (eff : Eff) : eff ∈ niEffs v4 v6 mpls nhgs nhgsRest nhs refName refErr ni ↔
    (∃ e ∈ v4 ni, eff ∈ topEffs refName refErr (Eff.flDelStr 4) ni e) ∨
    (∃ e ∈ v6 ni, eff ∈ topEffs refName refErr (Eff.flDelStr 6) ni e) ∨
    (∃ e ∈ mpls ni, eff ∈ topEffs refName refErr (Eff.flDelNat 1) ni e) ∨
    (∃ id ∈ backupsOf (nhgs ni), Eff.flDelNat 2 ni id = eff) ∨
    (∃ e ∈ nhgsRest ni, Eff.flDelNat 2 ni e.1 = eff) ∨ ∃ e ∈ nhs ni, Eff.flDelNat 3 ni e.1 = eff := by
  simp only [niEffs, List.mem_append, List.mem_flatMap, List.mem_map, or_assoc]

theorem niEffs_shape (n : String) :
    ∀ eff ∈ niEffs v4 v6 mpls nhgs nhgsRest nhs refName refErr n, IsFlushCall n eff := by
  have top {κ : Type} {del : String → κ → Eff} (hd : ∀ k, delNI (del n k) = some n) {e eff}
      (h : eff ∈ topEffs refName refErr del n e) : IsFlushCall n eff := by
    rcases (mem_topEffs ..).mp h with ⟨_, rfl⟩ | rfl
    · exact .inl ⟨_, _, rfl⟩
    · exact .inr (hd _)
  intro eff h
  rcases (mem_niEffs ..).mp h with ⟨_, _, h⟩ | ⟨_, _, h⟩ | ⟨_, _, h⟩ | ⟨_, _, rfl⟩ | ⟨_, _, rfl⟩ | ⟨_, _, rfl⟩
  · exact top (fun _ => rfl) h
  · exact top (fun _ => rfl) h
  · exact top (fun _ => rfl) h
  · exact .inr rfl
  · exact .inr rfl
  · exact .inr rfl

/-- only the requested instances have entries deleted (C08) -/
theorem flush_only_requested (nis : List String) :
    ∀ eff ∈ (Gen.ribFlush nis v4 v6 mpls nhgs nhgsRest nhs refName refErr del4 del6 delM delG delH).2,
      ∀ ni, delNI eff = some ni → ni ∈ nis := by
  rw [gen_ribFlush]
  intro eff h ni hd
  obtain ⟨n, hn, h⟩ := List.mem_flatMap.mp h
  rcases niEffs_shape v4 v6 mpls nhgs nhgsRest nhs refName refErr n eff h with ⟨_, _, rfl⟩ | h'
  · cases hd
  · rw [h'] at hd; cases hd; exact hn

theorem mem_flush {nis : List String} {ni : String} (hni : ni ∈ nis) {eff : Eff}
    (h : eff ∈ niEffs v4 v6 mpls nhgs nhgsRest nhs refName refErr ni) :
    eff ∈ (Gen.ribFlush nis v4 v6 mpls nhgs nhgsRest nhs refName refErr del4 del6 delM delG delH).2 := by
  rw [gen_ribFlush]; exact List.mem_flatMap.mpr ⟨ni, hni, h⟩

/-- every entry of a requested instance is deleted: IPv4, IPv6, MPLS, the groups left after the
backups, the next-hops (C08) -/
theorem flush_deletes_all (nis : List String) (ni : String) (hni : ni ∈ nis) :
    let effs := (Gen.ribFlush nis v4 v6 mpls nhgs nhgsRest nhs refName refErr del4 del6 delM delG delH).2
    (∀ e ∈ v4 ni, Eff.flDelStr 4 ni e.1 ∈ effs) ∧ (∀ e ∈ v6 ni, Eff.flDelStr 6 ni e.1 ∈ effs) ∧
    (∀ e ∈ mpls ni, Eff.flDelNat 1 ni e.1 ∈ effs) ∧ (∀ e ∈ nhgsRest ni, Eff.flDelNat 2 ni e.1 ∈ effs) ∧
    (∀ e ∈ nhs ni, Eff.flDelNat 3 ni e.1 ∈ effs) := by
  have h {eff} := fun h => mem_flush v4 v6 mpls nhgs nhgsRest nhs refName refErr del4 del6 delM delG delH hni
    ((mem_niEffs (eff := eff) ..).mpr h)
  have del {κ : Type} {del : String → κ → Eff} {e} : del ni e.1 ∈ topEffs refName refErr del ni e :=
    (mem_topEffs ..).mpr (.inr rfl)
  exact ⟨fun e he => h (.inl ⟨e, he, del⟩), fun e he => h (.inr (.inl ⟨e, he, del⟩)),
    fun e he => h (.inr (.inr (.inl ⟨e, he, del⟩))), fun e he => h (.inr (.inr (.inr (.inr (.inl ⟨e, he, rfl⟩))))),
    fun e he => h (.inr (.inr (.inr (.inr (.inr ⟨e, he, rfl⟩)))))⟩

/-- the reference each IPv4 / IPv6 / MPLS entry of a requested instance holds on its group is given
back, in the instance the entry names when that instance is found (C03: the counters follow the flush) -/
theorem flush_unrefs (nis : List String) (ni : String) (hni : ni ∈ nis) :
    let effs := (Gen.ribFlush nis v4 v6 mpls nhgs nhgsRest nhs refName refErr del4 del6 delM delG delH).2
    (∀ e ∈ v4 ni, refErr ni e.2.NextHopGroupNetworkInstance = none →
      Eff.decNHGRef (refName ni e.2.NextHopGroupNetworkInstance) e.2.NextHopGroup ∈ effs) ∧
    (∀ e ∈ v6 ni, refErr ni e.2.NextHopGroupNetworkInstance = none →
      Eff.decNHGRef (refName ni e.2.NextHopGroupNetworkInstance) e.2.NextHopGroup ∈ effs) ∧
    (∀ e ∈ mpls ni, refErr ni e.2.NextHopGroupNetworkInstance = none →
      Eff.decNHGRef (refName ni e.2.NextHopGroupNetworkInstance) e.2.NextHopGroup ∈ effs) := by
  have h {eff} := fun h => mem_flush v4 v6 mpls nhgs nhgsRest nhs refName refErr del4 del6 delM delG delH hni
    ((mem_niEffs (eff := eff) ..).mpr h)
  have dec {κ : Type} {del : String → κ → Eff} {e} (hr : refErr ni e.2.NextHopGroupNetworkInstance = none) :
      Eff.decNHGRef (refName ni e.2.NextHopGroupNetworkInstance) e.2.NextHopGroup ∈ topEffs refName refErr del ni e :=
    (mem_topEffs ..).mpr (.inl ⟨hr, rfl⟩)
  exact ⟨fun e he hr => h (.inl ⟨e, he, dec hr⟩), fun e he hr => h (.inr (.inl ⟨e, he, dec hr⟩)),
    fun e he hr => h (.inr (.inr (.inl ⟨e, he, dec hr⟩)))⟩

/-- the flush reports success exactly when no delete failed -/
theorem flush_ok_iff (nis : List String) :
    (Gen.ribFlush nis v4 v6 mpls nhgs nhgsRest nhs refName refErr del4 del6 delM delG delH).1 = none ↔
      nis.flatMap (niErrs v4 v6 mpls nhgs nhgsRest nhs del4 del6 delM delG delH) = [] := by
  rw [gen_ribFlush]
  dsimp only
  split
  · exact iff_of_true rfl ‹_›
  · exact iff_of_false nofun ‹_›

/-- does the entry hold a reference on group `g` of instance `t` that the flush gives back? -/
def holdsRef {κ : Type} (ni t : String) (g : Nat) (e : κ × OrigTop) : Bool :=
  (refErr ni e.2.NextHopGroupNetworkInstance).isNone && refName ni e.2.NextHopGroupNetworkInstance == t &&
    e.2.NextHopGroup == g

theorem count_topEffs {κ : Type} (del : String → κ → Eff) (hdel : ∀ a b t g, del a b ≠ Eff.decNHGRef t g)
    (ni t : String) (g : Nat) : ∀ (l : List (κ × OrigTop)),
    (l.flatMap (topEffs refName refErr del ni)).count (Eff.decNHGRef t g) = l.countP (holdsRef refName refErr ni t g)
  | [] => rfl
  | e :: l => by
    -- the entry contributes one decrement, exactly when it holds the reference
    rw [List.flatMap_cons, List.count_append, count_topEffs del hdel ni t g l, List.countP_cons, Nat.add_comm,
      topEffs, holdsRef, List.count_append, List.count_singleton, beq_false_of_ne (hdel _ _ _ _)]
    cases refErr ni e.2.NextHopGroupNetworkInstance with
    | some _ => rfl
    | none => simp [List.count_singleton]


/-- **the group counters follow the flush exactly**: flushing an instance gives back, for every
group `g` of every instance `t`, as many references as the instance's IPv4, IPv6 and MPLS entries
hold on it — one `decNHGRefCount` per referring entry, none for anything else (C03: deletion
protection stays consistent with what remains; C08) -/
theorem flush_unref_count (ni t : String) (g : Nat) :
    (niEffs v4 v6 mpls nhgs nhgsRest nhs refName refErr ni).count (Eff.decNHGRef t g) =
      (v4 ni).countP (holdsRef refName refErr ni t g) + (v6 ni).countP (holdsRef refName refErr ni t g) +
      (mpls ni).countP (holdsRef refName refErr ni t g) := by
  have z {α : Type} (k : Nat) (key : α → Nat) (l : List α) :
      (l.map fun x => Eff.flDelNat k ni (key x)).count (Eff.decNHGRef t g) = 0 :=
    List.count_eq_zero.mpr fun hm => let ⟨_, _, hx⟩ := List.mem_map.mp hm; nomatch hx
  simp only [niEffs, List.count_append]
  rw [count_topEffs refName refErr (Eff.flDelStr 4) (fun _ _ _ _ => nofun),
    count_topEffs refName refErr (Eff.flDelStr 6) (fun _ _ _ _ => nofun),
    count_topEffs refName refErr (Eff.flDelNat 1) (fun _ _ _ _ => nofun), z, z, z]
  rfl
end

theorem gen_ribflush_translated : Gen.ribFlush_problem = none := rfl

/-- non-vacuity: one instance with a prefix pointing at group 1 of another instance, group 1 with
backup group 2, both installed, one next-hop; nothing fails -/
example :
    Gen.ribFlush ["A"] (fun _ => [("1.0.0.0/8", ⟨"B", 1, "", 0⟩)]) (fun _ => []) (fun _ => [])
      (fun _ => [(1, ⟨some 2⟩), (2, ⟨none⟩)]) (fun _ => [(1, ⟨some 2⟩)]) (fun _ => [(7, ())])
      (fun _ n => n) (fun _ _ => none) (fun _ _ => none) (fun _ _ => none) (fun _ _ => none) (fun _ _ => none)
      (fun _ _ => none) =
    (none, [Eff.decNHGRef "B" 1, Eff.flDelStr 4 "A" "1.0.0.0/8", Eff.flDelNat 2 "A" 2, Eff.flDelNat 2 "A" 1,
      Eff.flDelNat 3 "A" 7]) := rfl

end Gribi.GenEquiv.RibFlush
