/-
The reference counters (rib/rib.go `handleReferences`, `handleNHGReferences`).

The generated definitions return the counter operations they perform, in order
(`incNHGRef / decNHGRef / incNHRef / decNHRef` on the holder of a named instance). Folding those
operations over the model's counters (`applyEffs`) gives exactly what the model's `Rib.reref`
computes, for every old and new payload, every set of instances, and (for groups) every member
list with repetitions and every order of the replaced group's map.
-/
import Gribi.Gen.HandleReferences
import Gribi.Gen.HandleNHGReferences
import Gribi.Model.Rib
import Gribi.Lemmas.RefInv
import Gribi.Props.GenEquiv.Loop
import Gribi.Props.GenEquiv.Firsts
namespace Gribi.GenEquiv.RibRef
open Gribi Gribi.Gen

def applyEff (s : Rib) : Eff → Rib
  | .incNHGRef ni id => { s with nhgRef := Rib.inc s.nhgRef (ni, id) }
  | .decNHGRef ni id => { s with nhgRef := Rib.dec s.nhgRef (ni, id) }
  | .incNHRef ni id => { s with nhRef := Rib.inc s.nhRef (ni, id) }
  | .decNHRef ni id => { s with nhRef := Rib.dec s.nhRef (ni, id) }
  | _ => s

def applyEffs (s : Rib) (l : List Eff) : Rib := l.foldl applyEff s

/-- `refdRIB` over the model's instances: the named instance, or the entry's own; an error when
the named one does not exist -/
def refNameM (ni ref : String) : String := if ref = "" then ni else ref
def refErrM (s : Rib) (_ni ref : String) : Option Status :=
  if ref = "" ∨ s.hasNI ref then none else some ⟨.InvalidArgument, .none⟩

def newTopOf (p : Payload) : NewTop :=
  { NextHopGroupNetworkInstance := some ⟨p.grpNI⟩, NextHopGroup := some ⟨p.grp⟩ }

def origTopOf (p : Payload) : OrigTop :=
  { NextHopGroupNetworkInstance := p.grpNI, NextHopGroup := p.grp }

@[simp] theorem hasNI_nhgRef (s : Rib) (m : Map (NI × Nat) Nat) (x : NI) : ({ s with nhgRef := m } : Rib).hasNI x = s.hasNI x := rfl
@[simp] theorem hasNI_nhRef (s : Rib) (m : Map (NI × Nat) Nat) (x : NI) : ({ s with nhRef := m } : Rib).hasNI x = s.hasNI x := rfl

theorem hasNI_applyEff (s : Rib) (e : Eff) (ni : NI) : (applyEff s e).hasNI ni = s.hasNI ni := by
  fun_cases applyEff s e <;> rfl

theorem applyEffs_append (s : Rib) (a b : List Eff) : applyEffs s (a ++ b) = applyEffs (applyEffs s a) b := by
  simp [applyEffs, List.foldl_append]

/-- the one counter operation on the group an entry points at: none when its instance is not found -/
def refEffs (mk : String → Nat → Eff) (refName : String → String → String) (refErr : String → String → Option Status)
    (ni grpNI : String) (grp : Nat) : List Eff :=
  if refErr ni grpNI = none then [mk (refName ni grpNI) grp] else []

/-- `handleReferences` performs: nothing when the new entry points at the group the replaced one
pointed at; otherwise a decrement for the replaced entry (if any), then an increment for the new one -/
theorem gen_handleReferences_effs (ni : String) (orig : Option OrigTop) (gNI : String) (g : Nat)
    (refName : String → String → String) (refErr : String → String → Option Status) :
    Gen.handleReferences ni orig (some ⟨some ⟨gNI⟩, some ⟨g⟩⟩) refName refErr =
      match orig with
      | none => refEffs .incNHGRef refName refErr ni gNI g
      | some o =>
        if gNI = o.NextHopGroupNetworkInstance ∧ g = o.NextHopGroup then []
        else refEffs .decNHGRef refName refErr ni o.NextHopGroupNetworkInstance o.NextHopGroup ++
          refEffs .incNHGRef refName refErr ni gNI g := by
  unfold Gen.handleReferences refEffs
  cases orig with
  | none => simp [handleReferences.join1]
  | some o =>
    -- by the answers of the two comparisons, not by the way the code writes and orders them: an inequality is given to
    -- `simp` both ways round
    by_cases h1 : gNI = o.NextHopGroupNetworkInstance
    · by_cases h2 : g = o.NextHopGroup
      · simp [h1, h2, handleReferences.join1]
      · have := Ne.symm h2
        cases hr : refErr ni o.NextHopGroupNetworkInstance <;> simp [*, handleReferences.join1]
    · have := Ne.symm h1
      cases hr : refErr ni o.NextHopGroupNetworkInstance <;> cases hn : refErr ni gNI <;>
        simp [*, handleReferences.join1]

/-- for `mk` = `decNHGRef` / `incNHGRef` the right side is `Rib.decG` / `Rib.incG` unfolded -/
theorem applyEffs_refEffs (mk : String → Nat → Eff) (s : Rib) (ni : NI) (hni : s.hasNI ni = true) (p : Payload) :
    applyEffs s (refEffs mk refNameM (refErrM s) ni p.grpNI p.grp) =
      if s.hasNI (Rib.tgtNI ni p) then applyEff s (mk (Rib.tgtNI ni p) p.grp) else s := by
  unfold refEffs refNameM refErrM Rib.tgtNI
  by_cases hg : p.grpNI = ""
  · simp [hg, hni, applyEffs]
  · by_cases hh : s.hasNI p.grpNI = true <;> simp [hg, hh, applyEffs]

/-- `handleReferences` = the model's `reref` for a top-level entry (the entry's own instance
exists: `addEntryInternal` has checked it) -/
theorem gen_handleReferences (s : Rib) (ni : NI) (key : Key) (htop : key.isTop = true) (hni : s.hasNI ni = true)
    (old : Option Payload) (new : Payload) :
    applyEffs s (Gen.handleReferences ni (old.map origTopOf) (some (newTopOf new)) refNameM (refErrM s)) =
      Rib.reref s ni key old new := by
  rw [Rib.reref_top htop, newTopOf, gen_handleReferences_effs]
  cases old with
  | none => exact applyEffs_refEffs .incNHGRef s ni hni new
  | some o =>
    simp only [Option.map_some, origTopOf, eq_comm (a := new.grpNI), eq_comm (a := new.grp)]
    split
    · rfl
    · rw [applyEffs_append, show applyEffs s _ = Rib.decG s ni o from applyEffs_refEffs .decNHGRef s ni hni o]
      have hr : refErrM (Rib.decG s ni o) = refErrM s := by funext a b; simp [refErrM]
      rw [← hr]
      exact applyEffs_refEffs .incNHGRef _ ni (by simpa using hni) new

theorem nhg_loop2 (ni : String) : ∀ (l : List OrigNHGMember) (effs : List Eff),
    handleNHGReferences.loop1.loop2 ni l effs = effs ++ l.map (fun m => Eff.decNHRef ni m.Index) := by
  simp only [List.map_eq_flatMap]
  exact loop_append (k := id) (fun _ => rfl) (fun _ _ _ => rfl)

theorem nhg_loop1 (ni : String) (orig : Option OrigNHG) : ∀ (l : List NewNHGMember) (seen : List Nat) (effs : List Eff),
    handleNHGReferences.loop1 ni orig l seen effs =
      effs ++ (firsts seen (l.map (·.Index))).map (fun n => Eff.incNHRef ni n) ++
        (match orig with
         | none => []
         | some o => o.NextHop.map (fun m => Eff.decNHRef ni m.Index)) := by
  intro l
  induction l with
  | nil =>
    intro seen effs
    unfold handleNHGReferences.loop1
    cases orig <;> simp [firsts, nhg_loop2]
  | cons m t ih =>
    intro seen effs
    unfold handleNHGReferences.loop1
    by_cases h : m.Index ∈ seen
    · simp [h, ih, firsts]
    · simp [h, ih, firsts]

/-- `handleNHGReferences` performs: one increment per distinct member of the new group (first
occurrences, in order), then one decrement per member of the replaced group -/
theorem gen_handleNHGReferences_effs (ni : String) (orig : Option OrigNHG) (new : NewNHG) :
    Gen.handleNHGReferences ni orig new =
      (firsts [] (new.NextHop.map (·.Index))).map (fun n => Eff.incNHRef ni n) ++
        (match orig with
         | none => []
         | some o => o.NextHop.map (fun m => Eff.decNHRef ni m.Index)) := by
  unfold Gen.handleNHGReferences
  simp [nhg_loop1]

theorem applyEffs_inc (s : Rib) (ni : String) (l : List Nat) :
    applyEffs s (l.map (fun n => Eff.incNHRef ni n)) = { s with nhRef := Rib.incL s.nhRef ni l } := by
  rw [applyEffs, List.foldl_map]
  exact List.foldl_hom (fun m => ({ s with nhRef := m } : Rib)) fun _ _ => rfl

theorem applyEffs_dec (s : Rib) (ni : String) (l : List Nat) :
    applyEffs s (l.map (fun n => Eff.decNHRef ni n)) = { s with nhRef := Rib.decL s.nhRef ni l } := by
  rw [applyEffs, List.foldl_map]
  exact List.foldl_hom (fun m => ({ s with nhRef := m } : Rib)) fun _ _ => rfl

/-- `handleNHGReferences` = the model's `reref` for a group, counter by counter. The members of
the replaced group are the entries of the installed group's map: distinct, and exactly the indices
its payload listed -/
theorem gen_handleNHGReferences (s : Rib) (ni : NI) (g : Nat) (old : Option Payload) (newp : Payload)
    (orig : Option OrigNHG) (new : NewNHG) (hnew : new.NextHop.map (·.Index) = newp.nhs)
    (hold : match old, orig with
      | none, none => True
      | some o, some og => (og.NextHop.map (·.Index)).Nodup ∧ ∀ n, n ∈ og.NextHop.map (·.Index) ↔ n ∈ o.nhs
      | _, _ => False) (x : NI × Nat) :
    Rib.cnt (applyEffs s (Gen.handleNHGReferences ni orig new)).nhRef x = Rib.cnt (Rib.reref s ni (.nhg g) old newp).nhRef x ∧
    (applyEffs s (Gen.handleNHGReferences ni orig new)).nhgRef = (Rib.reref s ni (.nhg g) old newp).nhgRef := by
  -- the code keeps first occurrences (`firsts []`), the model's `dedup` the last ones, so the two maps differ in
  -- order; over a duplicate-free list a counter depends on membership only (`cnt_incL`, `cnt_decL`)
  rw [gen_handleNHGReferences_effs, applyEffs_append, applyEffs_inc, hnew]
  cases old with
  | none =>
    cases orig with
    | some og => simp at hold
    | none =>
      simp only [applyEffs, List.foldl_nil, Rib.reref]
      refine ⟨?_, trivial⟩
      rw [Rib.cnt_incL _ _ _ (nodup_firsts _ _), Rib.cnt_incL _ _ _ (Rib.nodup_dedup _)]
      simp [mem_firsts, Rib.mem_dedup]
  | some o =>
    cases orig with
    | none => simp at hold
    | some og =>
      obtain ⟨hnd, hmem⟩ := hold
      have : og.NextHop.map (fun m => Eff.decNHRef ni m.Index) = (og.NextHop.map (·.Index)).map (fun n => Eff.decNHRef ni n) := by
        simp [List.map_map]
      simp only [this, applyEffs_dec, Rib.reref]
      refine ⟨?_, trivial⟩
      rw [Rib.cnt_decL _ _ _ hnd, Rib.cnt_decL _ _ _ (Rib.nodup_dedup _),
        Rib.cnt_incL _ _ _ (nodup_firsts _ _), Rib.cnt_incL _ _ _ (Rib.nodup_dedup _)]
      simp [mem_firsts, Rib.mem_dedup, hmem]

theorem gen_ribref_translated : Gen.handleReferences_problem = none ∧ Gen.handleNHGReferences_problem = none := ⟨rfl, rfl⟩

end Gribi.GenEquiv.RibRef
