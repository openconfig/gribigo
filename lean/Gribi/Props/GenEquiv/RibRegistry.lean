/-
The registry of network instances of a RIB (rib/rib.go): `r.niRIB`, a Go map from name to holder,
guarded by `r.nrMu` (the translator checks that every read and write of the map is under it).
`NetworkInstanceRIB` is what the `niKnown` oracles of the other translated functions stand for;
`AddNetworkInstance` is the model's `addNI`; `KnownNetworkInstances` returns the registered names,
sorted.
-/
import Gribi.Gen.NetworkInstanceRIB
import Gribi.Gen.KnownNetworkInstances
import Gribi.Gen.AddNetworkInstance
import Gribi.Model.Rib
import Gribi.Props.GenEquiv.Loop
namespace Gribi.GenEquiv.RibRegistry
open Gribi Gribi.Gen

/-- the registry holds exactly the model's instances -/
def Registered (m : Map String HolderG) (s : Rib) : Prop :=
  ∀ n, (Map.get? m n).isSome = s.hasNI n

theorem gen_networkInstanceRIB (n : String) (m : Map String HolderG) :
    Gen.networkInstanceRIB n m = (Map.get? m n, (Map.get? m n).isSome, m) := rfl

/-- the lookup that the `niKnown` oracles of the other translations stand for is the model's `hasNI` -/
theorem niKnown_model (m : Map String HolderG) (s : Rib) (h : Registered m s) (n : String) :
    (Gen.networkInstanceRIB n m).2.1 = s.hasNI n := by
  rw [gen_networkInstanceRIB]; exact h n

/-- the options a new holder gets: the RIB's check function, forward references disabled -/
def optsOf (ribCheck noFwd : Bool) : List Nat :=
  (if ribCheck then [1] else []) ++ (if noFwd then [2] else [])

/-- **`AddNetworkInstance`**: refused for a name that is registered (nothing changes); otherwise a
holder created with the RIB's options is registered under the name **and given the RIB's
post-change hook** (an instance created after the hook was set notifies it too) -/
theorem gen_addNetworkInstance (name : String) (ribCheck noFwd : Bool) (hook checkFn : Option Unit)
    (newHolder : String → List Nat → HolderG) (m : Map String HolderG) :
    Gen.addNetworkInstance name ribCheck noFwd hook checkFn newHolder m =
      if (Map.get? m name).isSome then (some ⟨GCode.Unknown, Details.none⟩, m)
      else (none, Map.insert m name { newHolder name (optsOf ribCheck noFwd) with postChangeHook := hook }) := by
  unfold Gen.addNetworkInstance optsOf
  cases h : Map.get? m name with
  | some x => simp
  | none => cases ribCheck <;> cases noFwd <;> simp [Map.insert_insert_self]

/-- on the model: `addNI` -/
theorem addNetworkInstance_model (name : String) (ribCheck noFwd : Bool) (hook checkFn : Option Unit)
    (newHolder : String → List Nat → HolderG) (m : Map String HolderG) (s : Rib) (h : Registered m s) :
    let r := Gen.addNetworkInstance name ribCheck noFwd hook checkFn newHolder m
    (r.1.isNone = (s.addNI name).2) ∧ Registered r.2 (s.addNI name).1 := by
  simp only [gen_addNetworkInstance, h name, Rib.addNI]
  cases hk : s.hasNI name with
  | true => exact ⟨rfl, h⟩
  | false =>
    refine ⟨rfl, fun n => ?_⟩
    rw [if_neg Bool.false_ne_true, Map.get?_insert]
    by_cases e : name = n
    · subst e; simp [Rib.hasNI]
    · simp [e, h n, Rib.hasNI, Ne.symm e]

theorem gen_knownNetworkInstances (m : Map String HolderG) :
    Gen.knownNetworkInstances m = (sortStrings (m.map (·.1)), m) := by
  simp only [Gen.knownNetworkInstances, foldl_snoc_map Prod.fst, List.nil_append]

/-- the known instances are a permutation of the registered names (so `Get`/`Flush` of ALL reach
every instance once when the registry has each name once) -/
theorem knownNetworkInstances_perm (m : Map String HolderG) :
    (Gen.knownNetworkInstances m).1.Perm (m.map (·.1)) := by
  rw [gen_knownNetworkInstances]
  exact List.mergeSort_perm _ _

theorem gen_registry_translated :
    Gen.networkInstanceRIB_problem = none ∧ Gen.knownNetworkInstances_problem = none ∧
    Gen.addNetworkInstance_problem = none := ⟨rfl, rfl, rfl⟩

end Gribi.GenEquiv.RibRegistry
