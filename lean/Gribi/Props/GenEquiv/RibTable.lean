/-
The table-level operations of a network instance (rib/rib.go): `AddIPv4`, `AddIPv6`, `AddMPLS`,
`AddNextHopGroup`, `AddNextHop`, their five `Delete…` twins, and the five `locklessDelete…` that
`Flush` removes entries with. The first argument of the three shapes and of the effects
`Eff.tableAdd` / `tableDel` is the table: 4 IPv4, 6 IPv6, 1 MPLS, 2 next-hop groups, 3 next-hops.

The five adds have one shape (`tableAddSpec`), which is the order of tests the model's `Rib.classify`
assumes: nil checks, schema validation of the one-entry candidate (`candidateRIB`), the existence
test of an explicit REPLACE, the semantic check (`checkFn` = `canResolve`: error → never
installable; not ok → try again later), and only then the merge into the table and the
post-change notifications, one per entry of the candidate. The theorems hold for every outcome
of every call the functions make.
-/
import Gribi.Gen.AddIPv4
import Gribi.Gen.AddIPv6
import Gribi.Gen.AddMPLS
import Gribi.Gen.AddNextHopGroup
import Gribi.Gen.AddNextHop
import Gribi.Gen.DeleteIPv4
import Gribi.Gen.DeleteIPv6
import Gribi.Gen.DeleteMPLS
import Gribi.Gen.DeleteNextHopGroup
import Gribi.Gen.DeleteNextHop
import Gribi.Gen.LocklessDeleteIPv4
import Gribi.Gen.LocklessDeleteIPv6
import Gribi.Gen.LocklessDeleteMPLS
import Gribi.Gen.LocklessDeleteNHG
import Gribi.Gen.LocklessDeleteNH
import Gribi.Props.GenEquiv.Loop
namespace Gribi.GenEquiv.RibTable
open Gribi Gribi.Gen

def tableAddSpec (kind : Nat) (elems : NewAfts → List NewElem) (eNil : Bool) (explicitReplace : Bool) (rr : Option Unit)
    (nr : Option NewRIB) (exists_ : Bool) (installed : Option Unit) (checkFn : Option Unit) (checkOk : Bool)
    (checkErr doErr : Option Status) (hook : Option Unit) (name : String) : Bool × Option Unit × Option Status × List Eff :=
  if rr.isNone || eNil then (false, none, some ⟨.Unknown, .none⟩, [])
  else match nr with
    | none => (false, none, some ⟨.Unknown, .none⟩, [])                    -- the entry violates the schema
    | some c =>
      if explicitReplace && !exists_ then (false, none, some ⟨.Unknown, .none⟩, [])   -- REPLACE of nothing
      else if checkFn.isSome && checkErr.isSome then (false, none, checkErr, [])    -- can never be installed
      else if checkFn.isSome && !checkOk then (false, none, none, [])              -- not now: try again later
      else match doErr with
        | some _ => (false, none, doErr, [Eff.tableAdd kind nr])
        | none =>
          (true, if exists_ then installed else none, none,
            [Eff.tableAdd kind nr] ++
              (if hook.isSome then (elems c.Afts).map (fun x => Eff.postHook constants_Add name (some x)) else []))


theorem gen_addIPv4 (e : Option IPv4EntryC) (explicitReplace : Bool) (rr : Option Unit) (nr : Option NewRIB) (candErr : Status)
    (exists_ : Bool) (installed : Option Unit) (checkFn : Option Unit) (checkOk : Bool) (checkErr doErr : Option Status)
    (hook : Option Unit) (name : String) (implicit : Bool) (now : Int) :
    Gen.addIPv4 e explicitReplace rr nr candErr exists_ installed checkFn checkOk checkErr doErr hook name implicit now =
      tableAddSpec 4 (·.Ipv4Entry) e.isNone explicitReplace rr nr exists_ installed checkFn checkOk checkErr doErr hook name := by
  -- the two nil tests in whichever order the code makes them (they refuse alike); then the order that the calls
  -- force (a sweep over all ten inputs is 1024 goals): validation of the candidate made from `e`, REPLACE of
  -- nothing, the check (none / error / not now / ok), the merge, the hook. Every leaf computes, except the
  -- notification loop, of which the translation has one copy per path through the existence test
  cases rr <;> cases e <;> try rfl
  rcases nr with _ | c; · rfl
  cases explicitReplace <;> cases exists_
  case true.false => rfl
  all_goals
    cases checkFn with
    | none =>
      cases doErr with
      | some _ => rfl
      | none => cases hook with
        | none => rfl
        | some _ => exact loop_snoc (fun _ => rfl) (fun _ _ _ => rfl) _ _
    | some _ =>
      cases checkErr with
      | some _ => rfl
      | none => cases checkOk with
        | false => rfl
        | true =>
          cases doErr with
          | some _ => rfl
          | none => cases hook with
            | none => rfl
            | some _ => exact loop_snoc (fun _ => rfl) (fun _ _ _ => rfl) _ _

theorem gen_addIPv6 (e : Option IPv6EntryC) (explicitReplace : Bool) (rr : Option Unit) (nr : Option NewRIB) (candErr : Status)
    (exists_ : Bool) (installed : Option Unit) (checkFn : Option Unit) (checkOk : Bool) (checkErr doErr : Option Status)
    (hook : Option Unit) (name : String) (implicit : Bool) (now : Int) :
    Gen.addIPv6 e explicitReplace rr nr candErr exists_ installed checkFn checkOk checkErr doErr hook name implicit now =
      tableAddSpec 6 (·.Ipv6Entry) e.isNone explicitReplace rr nr exists_ installed checkFn checkOk checkErr doErr hook name := by
  cases rr <;> cases e <;> try rfl
  rcases nr with _ | c; · rfl
  cases explicitReplace <;> cases exists_
  case true.false => rfl
  all_goals
    cases checkFn with
    | none =>
      cases doErr with
      | some _ => rfl
      | none => cases hook with
        | none => rfl
        | some _ => exact loop_snoc (fun _ => rfl) (fun _ _ _ => rfl) _ _
    | some _ =>
      cases checkErr with
      | some _ => rfl
      | none => cases checkOk with
        | false => rfl
        | true =>
          cases doErr with
          | some _ => rfl
          | none => cases hook with
            | none => rfl
            | some _ => exact loop_snoc (fun _ => rfl) (fun _ _ _ => rfl) _ _

theorem gen_addMPLS (e : Option LabelEntryC) (explicitReplace : Bool) (rr : Option Unit) (nr : Option NewRIB) (candErr : Status)
    (exists_ : Bool) (installed : Option Unit) (checkFn : Option Unit) (checkOk : Bool) (checkErr doErr : Option Status)
    (hook : Option Unit) (name : String) (implicit : Bool) (now : Int) :
    Gen.addMPLS e explicitReplace rr nr candErr exists_ installed checkFn checkOk checkErr doErr hook name implicit now =
      tableAddSpec 1 (·.LabelEntry) e.isNone explicitReplace rr nr exists_ installed checkFn checkOk checkErr doErr hook name := by
  cases rr <;> cases e <;> try rfl
  rcases nr with _ | c; · rfl
  cases explicitReplace <;> cases exists_
  case true.false => rfl
  all_goals
    cases checkFn with
    | none =>
      cases doErr with
      | some _ => rfl
      | none => cases hook with
        | none => rfl
        | some _ => exact loop_snoc (fun _ => rfl) (fun _ _ _ => rfl) _ _
    | some _ =>
      cases checkErr with
      | some _ => rfl
      | none => cases checkOk with
        | false => rfl
        | true =>
          cases doErr with
          | some _ => rfl
          | none => cases hook with
            | none => rfl
            | some _ => exact loop_snoc (fun _ => rfl) (fun _ _ _ => rfl) _ _

theorem gen_addNextHopGroup (e : Option NHGEntryC) (explicitReplace : Bool) (rr : Option Unit) (nr : Option NewRIB) (candErr : Status)
    (exists_ : Bool) (installed : Option Unit) (checkFn : Option Unit) (checkOk : Bool) (checkErr doErr : Option Status)
    (hook : Option Unit) (name : String) (implicit : Bool) (now : Int) :
    Gen.addNextHopGroup e explicitReplace rr nr candErr exists_ installed checkFn checkOk checkErr doErr hook name implicit now =
      tableAddSpec 2 (·.NextHopGroup) e.isNone explicitReplace rr nr exists_ installed checkFn checkOk checkErr doErr hook name := by
  cases rr <;> cases e <;> try rfl
  rcases nr with _ | c; · rfl
  cases explicitReplace <;> cases exists_
  case true.false => rfl
  all_goals
    cases checkFn with
    | none =>
      cases doErr with
      | some _ => rfl
      | none => cases hook with
        | none => rfl
        | some _ => exact loop_snoc (fun _ => rfl) (fun _ _ _ => rfl) _ _
    | some _ =>
      cases checkErr with
      | some _ => rfl
      | none => cases checkOk with
        | false => rfl
        | true =>
          cases doErr with
          | some _ => rfl
          | none => cases hook with
            | none => rfl
            | some _ => exact loop_snoc (fun _ => rfl) (fun _ _ _ => rfl) _ _

theorem gen_addNextHop (e : Option NHEntryC) (explicitReplace : Bool) (rr : Option Unit) (nr : Option NewRIB) (candErr : Status)
    (exists_ : Bool) (installed : Option Unit) (checkFn : Option Unit) (checkOk : Bool) (checkErr doErr : Option Status)
    (hook : Option Unit) (name : String) (implicit : Bool) (now : Int) :
    Gen.addNextHop e explicitReplace rr nr candErr exists_ installed checkFn checkOk checkErr doErr hook name implicit now =
      tableAddSpec 3 (·.NextHop) e.isNone explicitReplace rr nr exists_ installed checkFn checkOk checkErr doErr hook name := by
  cases rr <;> cases e <;> try rfl
  rcases nr with _ | c; · rfl
  cases explicitReplace <;> cases exists_
  case true.false => rfl
  all_goals
    cases checkFn with
    | none =>
      cases doErr with
      | some _ => rfl
      | none => cases hook with
        | none => rfl
        | some _ => exact loop_snoc (fun _ => rfl) (fun _ _ _ => rfl) _ _
    | some _ =>
      cases checkErr with
      | some _ => rfl
      | none => cases checkOk with
        | false => rfl
        | true =>
          cases doErr with
          | some _ => rfl
          | none => cases hook with
            | none => rfl
            | some _ => exact loop_snoc (fun _ => rfl) (fun _ _ _ => rfl) _ _


/-- the common shape of the five table-level deletes: nil checks, the kind's own refusal of a key
that names nothing (`preErr`: group id 0, next-hop index 0, a label that is not a uint64 or exceeds
32 bits), schema validation of the key (top-level entries), the semantic check (`checkFn` =
`canDelete`), and only then the removal and one post-change notification carrying the entry that
was installed (nil when none was). The payload of the request is never looked at. -/
def tableDelSpec (kind : Nat) (preErr useKeyErr : Bool) (eNil : Bool) (rr installed : Option Unit) (keyErr : Option Status)
    (checkFn : Option Unit) (checkOk : Bool) (checkErr : Option Status) (hook : Option Unit) (name : String) :
    Bool × Option Unit × Option Status × List Eff :=
  if eNil || rr.isNone then (false, none, some ⟨.Unknown, .none⟩, [])
  else if preErr then (false, none, some ⟨.Unknown, .none⟩, [])
  else if useKeyErr && keyErr.isSome then (false, none, keyErr, [])
  else if checkFn.isSome && checkErr.isSome then (false, none, checkErr, [])
  else if checkFn.isSome && !checkOk then (false, none, none, [])
  else (true, installed, none,
    [Eff.tableDel kind] ++ (if hook.isSome then [Eff.postHookDel constants_Delete name installed] else []))

theorem gen_deleteIPv4 (e : Option IPv4EntryC) (rr installed : Option Unit) (keyErr : Option Status) (checkFn : Option Unit) (checkOk : Bool)
    (checkErr : Option Status) (hook : Option Unit) (name : String) (now : Int) (isUint : Bool) :
    Gen.deleteIPv4 e rr installed keyErr checkFn checkOk checkErr hook name now isUint =
      tableDelSpec 4 (false) true e.isNone rr installed keyErr checkFn checkOk checkErr hook name := by
  cases e <;> cases rr <;> try rfl
  cases keyErr with
  | some _ => rfl
  | none =>
    cases checkFn with
    | none => cases hook <;> rfl
    | some _ =>
      cases checkErr with
      | some _ => rfl
      | none => cases checkOk <;> cases hook <;> rfl

theorem gen_deleteIPv6 (e : Option IPv6EntryC) (rr installed : Option Unit) (keyErr : Option Status) (checkFn : Option Unit) (checkOk : Bool)
    (checkErr : Option Status) (hook : Option Unit) (name : String) (now : Int) (isUint : Bool) :
    Gen.deleteIPv6 e rr installed keyErr checkFn checkOk checkErr hook name now isUint =
      tableDelSpec 6 (false) true e.isNone rr installed keyErr checkFn checkOk checkErr hook name := by
  cases e <;> cases rr <;> try rfl
  cases keyErr with
  | some _ => rfl
  | none =>
    cases checkFn with
    | none => cases hook <;> rfl
    | some _ =>
      cases checkErr with
      | some _ => rfl
      | none => cases checkOk <;> cases hook <;> rfl

theorem gen_deleteMPLS (e : Option LabelEntryC) (rr installed : Option Unit) (keyErr : Option Status) (checkFn : Option Unit) (checkOk : Bool)
    (checkErr : Option Status) (hook : Option Unit) (name : String) (now : Int) (isUint : Bool) :
    Gen.deleteMPLS e rr installed keyErr checkFn checkOk checkErr hook name now isUint =
      tableDelSpec 1 (!isUint || decide (((e.map (·.LabelUint64)).getD 0) > 4294967295)) true e.isNone rr installed keyErr checkFn checkOk checkErr hook name := by
  rcases e with _ | e <;> cases rr <;> try rfl
  cases isUint; · rfl
  unfold Gen.deleteMPLS tableDelSpec
  by_cases h : e.LabelUint64 > 4294967295
  · simp [h]
  · simp only [Option.map_some, Option.getD_some, h, decide_false, if_false]
    cases keyErr with
    | some _ => rfl
    | none =>
      cases checkFn with
      | none => cases hook <;> rfl
      | some _ =>
        cases checkErr with
        | some _ => rfl
        | none => cases checkOk <;> cases hook <;> rfl

theorem gen_deleteNextHopGroup (e : Option NHGEntryC) (rr installed : Option Unit) (keyErr : Option Status) (checkFn : Option Unit) (checkOk : Bool)
    (checkErr : Option Status) (hook : Option Unit) (name : String) (now : Int) (isUint : Bool) :
    Gen.deleteNextHopGroup e rr installed keyErr checkFn checkOk checkErr hook name now isUint =
      tableDelSpec 2 (decide (((e.map (·.Id)).getD 0) = 0)) false e.isNone rr installed keyErr checkFn checkOk checkErr hook name := by
  -- the id as zero / successor, so that the code's test of it computes
  rcases e with _ | ⟨_ | _, _⟩ <;> cases rr <;> try rfl
  cases checkFn with
  | none => cases hook <;> rfl
  | some _ =>
    cases checkErr with
    | some _ => rfl
    | none => cases checkOk <;> cases hook <;> rfl

theorem gen_deleteNextHop (e : Option NHEntryC) (rr installed : Option Unit) (keyErr : Option Status) (checkFn : Option Unit) (checkOk : Bool)
    (checkErr : Option Status) (hook : Option Unit) (name : String) (now : Int) (isUint : Bool) :
    Gen.deleteNextHop e rr installed keyErr checkFn checkOk checkErr hook name now isUint =
      tableDelSpec 3 (decide (((e.map (·.Index)).getD 0) = 0)) false e.isNone rr installed keyErr checkFn checkOk checkErr hook name := by
  rcases e with _ | ⟨_ | _⟩ <;> cases rr <;> try rfl
  cases checkFn with
  | none => cases hook <;> rfl
  | some _ =>
    cases checkErr with
    | some _ => rfl
    | none => cases checkOk <;> cases hook <;> rfl


/-- the common shape of the five lockless deletes: a key that is not in the table is an error and
nothing changes; otherwise (for a group: one next-hop decrement per member first) the key is removed
from the table, and *then* the post-change hook is called, once, with the entry that was removed -/
def locklessSpec {κ : Type} [DecidableEq κ] (kind : Nat) (members : Bool) (key : κ) (hook : Option Unit) (name : String)
    (tbl : Map κ TblEntry) : Option Status × Map κ TblEntry × List Eff :=
  match Map.get? tbl key with
  | none => (some ⟨.Unknown, .none⟩, tbl, [])
  | some e =>
    (none, Map.erase tbl key,
      (if members then e.NextHop.map (fun m => Eff.decNHRef name m.Key) else []) ++ [Eff.tableDel kind] ++
        (if hook.isSome then [Eff.postHookTbl constants_Delete name (some e)] else []))

theorem gen_locklessDeleteIPv4 (key : String) (hook : Option Unit) (name : String) (now : Int) (tbl : Map String TblEntry) :
    Gen.locklessDeleteIPv4 key hook name now tbl = locklessSpec 4 false key hook name tbl := by
  unfold Gen.locklessDeleteIPv4 locklessSpec
  cases h : Map.get? tbl key <;> cases hook <;> simp

theorem gen_locklessDeleteIPv6 (key : String) (hook : Option Unit) (name : String) (now : Int) (tbl : Map String TblEntry) :
    Gen.locklessDeleteIPv6 key hook name now tbl = locklessSpec 6 false key hook name tbl := by
  unfold Gen.locklessDeleteIPv6 locklessSpec
  cases h : Map.get? tbl key <;> cases hook <;> simp

theorem gen_locklessDeleteMPLS (key : Nat) (hook : Option Unit) (name : String) (now : Int) (tbl : Map Nat TblEntry) :
    Gen.locklessDeleteMPLS key hook name now tbl = locklessSpec 1 false key hook name tbl := by
  unfold Gen.locklessDeleteMPLS locklessSpec
  cases h : Map.get? tbl key <;> cases hook <;> simp

theorem gen_locklessDeleteNH (key : Nat) (hook : Option Unit) (name : String) (now : Int) (tbl : Map Nat TblEntry) :
    Gen.locklessDeleteNH key hook name now tbl = locklessSpec 3 false key hook name tbl := by
  unfold Gen.locklessDeleteNH locklessSpec
  cases h : Map.get? tbl key <;> cases hook <;> simp

theorem gen_locklessDeleteNHG (key : Nat) (hook : Option Unit) (name : String) (now : Int) (tbl : Map Nat TblEntry) :
    Gen.locklessDeleteNHG key hook name now tbl = locklessSpec 2 true key hook name tbl := by
  unfold Gen.locklessDeleteNHG locklessSpec
  cases h : Map.get? tbl key with
  | none => rfl
  | some e =>
    refine (loop_snoc (f := fun m => Eff.decNHRef name m.Key) (fun _ => rfl) (fun _ _ _ => rfl) e.NextHop []).trans ?_
    cases hook <;> simp [locklessDeleteNHG.loop1, h]

theorem gen_ribtable_translated :
    Gen.addIPv4_problem = none ∧ Gen.addIPv6_problem = none ∧ Gen.addMPLS_problem = none ∧
    Gen.addNextHopGroup_problem = none ∧ Gen.addNextHop_problem = none ∧
    Gen.deleteIPv4_problem = none ∧ Gen.deleteIPv6_problem = none ∧ Gen.deleteMPLS_problem = none ∧
    Gen.deleteNextHopGroup_problem = none ∧ Gen.deleteNextHop_problem = none ∧
    Gen.locklessDeleteIPv4_problem = none ∧ Gen.locklessDeleteIPv6_problem = none ∧ Gen.locklessDeleteMPLS_problem = none ∧
    Gen.locklessDeleteNHG_problem = none ∧ Gen.locklessDeleteNH_problem = none :=
  ⟨rfl, rfl, rfl, rfl, rfl, rfl, rfl, rfl, rfl, rfl, rfl, rfl, rfl, rfl, rfl⟩

end Gribi.GenEquiv.RibTable
