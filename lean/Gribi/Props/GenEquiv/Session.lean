/-
The session table of `server.Server` (`s.cs`, a Go map from the session's uuid to `*clientState`):
`newClient`, `deleteClient`, `checkClientsConsistent`, `setClientParams`, `updateParams`,
`storeClientElectionID`, `getClientStateCopy`, `clientParams.Equal`.

The Go map is an association list (the model's own `Map`); `tableOf` is the code's table that
corresponds to the model's session table: the sessions renamed by an injective naming of the
model's session numbers (`Naming`). Every generated function is proved to act on such tables as
the model's `connect` / `drop` / `insert` do.
-/
import Gribi.Gen.NewClient
import Gribi.Gen.DeleteClient
import Gribi.Gen.UpdateParams
import Gribi.Gen.CheckClientsConsistent
import Gribi.Gen.SetClientParams
import Gribi.Gen.StoreClientElectionID
import Gribi.Gen.GetClientStateCopy
import Gribi.Props.GenEquiv.Election
import Gribi.Props.GenEquiv.Loop
namespace Gribi.GenEquiv
open Gribi Gribi.Gen

def tableOf (nm : Nat → String) (m : Map Nat Sess) : Map String ClientState :=
  m.map (fun e => (nm e.1, gsess e.2))

theorem get?_tableOf (nm : Nat → String) (hn : Naming nm) (m : Map Nat Sess) (c : Nat) :
    Map.get? (tableOf nm m) (nm c) = (Map.get? m c).map gsess :=
  Map.get?_rename nm gsess hn.inj m c

theorem erase_tableOf (nm : Nat → String) (hn : Naming nm) (m : Map Nat Sess) (c : Nat) :
    Map.erase (tableOf nm m) (nm c) = tableOf nm (Map.erase m c) :=
  Map.erase_rename nm gsess hn.inj m c

theorem insert_tableOf (nm : Nat → String) (hn : Naming nm) (m : Map Nat Sess) (c : Nat) (x : Sess) :
    Map.insert (tableOf nm m) (nm c) (gsess x) = tableOf nm (Map.insert m c x) :=
  Map.insert_rename nm gsess hn.inj m c x

theorem gen_paramsEqual (a b : ClientParams) : Gen.clientParamsEqual a b = decide (a = b) := by
  cases a; cases b
  -- both sides are the conjunction of the three field equations, each in an order of its own
  rw [Bool.eq_iff_iff]
  simp only [Gen.clientParamsEqual, ClientParams.mk.injEq, Bool.and_eq_true, decide_eq_true_eq]
  constructor <;> (intro h; simp only [h, and_self])

theorem gparams_inj (a b : Params) : gparams a = gparams b ↔ a = b := by
  cases a; cases b; simp [gparams]

theorem dec_beq_one (n : Nat) : decide (n = 1) = (n == 1) := rfl

/-- the parameters the code computes from the wire values are the model's `paramsOf` (the model's
`==` on numbers is `decide` of the equality) -/
theorem gparams_paramsOf (red pers ack : Nat) :
    ({ Persist := decide (pers = SessionParameters_PRESERVE), ExpectElecID := decide (red = SessionParameters_SINGLE_PRIMARY),
       FIBAck := decide (ack = SessionParameters_RIB_AND_FIB_ACK) } : ClientParams) = gparams (Server.paramsOf red pers ack) := rfl

theorem gen_newClient (nm : Nat → String) (hn : Naming nm) (s : Server) (c : Nat) (hfresh : s.sess.get? c = none) :
    Gen.newClient (nm c) (tableOf nm s.sess) = (none, tableOf nm (s.connect c).sess) := by
  simp only [Gen.newClient, get?_tableOf nm hn, hfresh, Option.map_none]
  exact congrArg (Prod.mk none) (insert_tableOf nm hn s.sess c {})

theorem gen_newClient_dup (id : String) (cs : Map String ClientState) (x : ClientState) (h : Map.get? cs id = some x) :
    Gen.newClient id cs = (some ⟨.Internal, .none⟩, cs) := by
  rw [Gen.newClient, h]

theorem gen_deleteClient (nm : Nat → String) (hn : Naming nm) (s : Server) (c : Nat) :
    Gen.deleteClient (nm c) (tableOf nm s.sess) = tableOf nm (s.drop c).sess :=
  erase_tableOf nm hn s.sess c

/-- the loop of `checkClientsConsistent`, whatever the order of the Go map: every *other* entry
has parameters equal to the candidate's -/
theorem consistent_loop (id : String) (cs0 : Map String ClientState) (p : ClientParams) :
    ∀ (l : List (String × ClientState)),
      checkClientsConsistent.loop1 id cs0 p l =
        (l.all (fun e => e.1 == id || decide (e.2.params = p)), none, cs0) :=
  loop_all_exit (k := fun b => (b, none, cs0)) rfl fun x t => by
    rw [checkClientsConsistent.loop1, gen_paramsEqual]
    by_cases h : x.1 = id
    · simp [h]
    · simp [h, Ne.symm h]

/-- `checkClientsConsistent` = the consistency test of the model's `doParams` -/
theorem gen_checkClientsConsistent (nm : Nat → String) (hn : Naming nm) (s : Server) (c : Nat) (cp : Params) :
    Gen.checkClientsConsistent (nm c) (some (gparams cp)) (tableOf nm s.sess) =
      (s.sess.all (fun e => e.1 == c || e.2.params == cp), none, tableOf nm s.sess) := by
  simp only [Gen.checkClientsConsistent, consistent_loop]
  congr 1
  simp only [tableOf, List.all_map]
  congr 1
  funext e
  simp only [Function.comp, gsess]
  have hi : nm e.1 = nm c ↔ e.1 = c := ⟨hn.inj _ _, fun x => by rw [x]⟩
  rw [Bool.eq_iff_iff]
  simp [hi, gparams_inj]

theorem gen_setClientParams (nm : Nat → String) (hn : Naming nm) (s : Server) (c : Nat) (x : Sess) (cp : Params)
    (h : s.sess.get? c = some x) :
    Gen.setClientParams (nm c) (gparams cp) (tableOf nm s.sess) =
      (none, tableOf nm (s.sess.insert c { x with params := cp })) := by
  simp only [Gen.setClientParams, get?_tableOf nm hn, h, Option.map_some]
  exact congrArg (Prod.mk none) (insert_tableOf nm hn s.sess c { x with params := cp })

theorem gen_updateParams (nm : Nat → String) (hn : Naming nm) (s : Server) (c : Nat) (x : Sess) (red pers ack : Nat)
    (h : s.sess.get? c = some x) :
    Gen.updateParams (nm c) ⟨red, pers, ack⟩ (tableOf nm s.sess) =
      if x.setParams then (some ⟨.FailedPrecondition, .modify .MODIFY_NOT_ALLOWED⟩, tableOf nm s.sess)
      else (none, tableOf nm (s.sess.insert c { x with params := Server.paramsOf red pers ack, setParams := true })) := by
  simp only [Gen.updateParams, get?_tableOf nm hn, h, Option.map_some, Map.insert_insert_self, gparams_paramsOf,
    show (gsess x).setParams = x.setParams from rfl]
  cases x.setParams
  · exact congrArg (Prod.mk none)
      (insert_tableOf nm hn s.sess c { x with params := Server.paramsOf red pers ack, setParams := true })
  · rfl

theorem gen_storeClientElectionID (nm : Nat → String) (hn : Naming nm) (s : Server) (c : Nat) (x : Sess) (e : U128)
    (h : s.sess.get? c = some x) :
    Gen.storeClientElectionID (nm c) (some e) (tableOf nm s.sess) =
      (true, tableOf nm (s.sess.insert c { x with lastElec := some e })) := by
  simp only [Gen.storeClientElectionID, get?_tableOf nm hn, h, Option.map_some]
  exact congrArg (Prod.mk true) (insert_tableOf nm hn s.sess c { x with lastElec := some e })

theorem gen_getClientStateCopy (nm : Nat → String) (hn : Naming nm) (s : Server) (c : Nat) :
    Gen.getClientStateCopy (nm c) (tableOf nm s.sess) =
      match s.sess.get? c with
      | some x => (some (gsess x), none, tableOf nm s.sess)
      | none => (none, some ⟨.Unknown, .none⟩, tableOf nm s.sess) := by
  simp only [Gen.getClientStateCopy, get?_tableOf nm hn]
  cases s.sess.get? c <;> rfl

theorem gen_session_translated :
    Gen.newClient_problem = none ∧ Gen.deleteClient_problem = none ∧ Gen.updateParams_problem = none ∧
    Gen.checkClientsConsistent_problem = none ∧ Gen.setClientParams_problem = none ∧
    Gen.storeClientElectionID_problem = none ∧ Gen.getClientStateCopy_problem = none ∧
    Gen.clientParamsEqual_problem = none := ⟨rfl, rfl, rfl, rfl, rfl, rfl, rfl, rfl⟩

end Gribi.GenEquiv
