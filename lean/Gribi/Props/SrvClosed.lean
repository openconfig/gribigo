/-
C02 at the server. By the refinement of `SrvRefine`, a server event that is not a Flush of one
*named* instance acts on the RIB by a run whose flushes (if any) name every instance that exists —
so closure ("no installed entry dangles") and completeness ("no held operation is resolvable")
hold in every state the server model reaches from a new server through any number of sessions,
elections, gates, protocol violations, disconnects, Gets and Flushes of all instances.
Completeness needs no proviso on the flushes at all.
-/
import Gribi.Props.SrvRefine
namespace Gribi.SrvClosed
open Gribi Server SrvRefine

/-- **refinement, whole histories without a Flush of one named instance**: every flush of the RIB run
names all the instances there are. -/
theorem run_full {s s' : Server} {evs : List Ev} {os : List EvOut} (h : run s evs = some (s', os))
    (hn : ∀ ev ∈ evs, NotNamedFlush ev) :
    ∃ ins outs, Rib.run s.rib ins = some (s'.rib, outs) ∧ C02.FullFlushes s.rib ins :=
  (run_refines_acks h).imp fun _ => Exists.imp fun _ h => ⟨h.1, h.2.2.2 hn⟩

/-- **C02 at the server (closure and completeness).** In every state the server model reaches
from a new server — any number of sessions, any interleaving of their parameters, announcements,
batches, protocol violations, disconnects, Gets and Flushes of all instances — no installed
entry dangles and no held operation is resolvable. -/
theorem srv_c02_closed_complete (d : NI) (vrfs : List NI) (fwd hook : Bool) {s' : Server} {evs : List Ev}
    {os : List EvOut} (h : run (Server.new d vrfs fwd hook) evs = some (s', os))
    (hn : ∀ ev ∈ evs, NotNamedFlush ev) : C02.Closed s'.rib ∧ C02.NoneInstallable s'.rib := by
  obtain ⟨_, _, hr, _, _, hf⟩ := new_run_refines d vrfs fwd hook h
  exact C02.c02_closed_complete d fwd hr (hf hn)

/-- **C02 at the server (completeness), no proviso.** Whatever Flushes occurred, a held
operation is never left unanswered while it is resolvable. -/
theorem srv_c02_complete (d : NI) (vrfs : List NI) (fwd hook : Bool) {s' : Server} {evs : List Ev}
    {os : List EvOut} (h : run (Server.new d vrfs fwd hook) evs = some (s', os)) :
    C02.NoneInstallable s'.rib := by
  obtain ⟨_, _, hr, _⟩ := new_run_refines d vrfs fwd hook h
  have g := C02.good_new d fwd
  exact C02.c02_complete hr g.inv g.pni g.none

end Gribi.SrvClosed
