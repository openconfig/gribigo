/-
C01 at the server: for every history of the server model — any number of sessions, elections,
gates, protocol violations, disconnects, Gets and Flushes — the installed entries are the fold
of what the server acknowledged (operations answered RIB_PROGRAMMED on any stream, in the order
the server processed them, and Flushes answered OK) over the initial contents.
-/
import Gribi.Props.SrvRefine
namespace Gribi.SrvFold
open Gribi Server Spec SrvRefine

/-- `Refines` without the claim on the flushes -/
def RunAcks (r r' : Rib) (acks : List Ack) : Prop :=
  ∃ ins outs, Rib.run r ins = some (r', outs) ∧ (∀ i ∈ ins, C01.inWf i) ∧ C01.acksAll ins outs = acks

theorem RunAcks.of_refines {r r' : Rib} {acks : List Ack} {full : Prop} (h : Refines r r' acks full) :
    RunAcks r r' acks :=
  h.imp fun _ => Exists.imp fun _ h => ⟨h.1, h.2.1, h.2.2.1⟩

theorem RunAcks.append {r r1 r2 : Rib} {a b : List Ack} (h1 : RunAcks r r1 a) (h2 : RunAcks r1 r2 b) :
    RunAcks r r2 (a ++ b) :=
  -- a run without a claim on its flushes
  have lift {r r' a} (h : RunAcks r r' a) : Refines r r' a False :=
    h.imp fun _ => Exists.imp fun _ h => ⟨h.1, h.2.1, h.2.2, False.elim⟩
  .of_refines ((lift h1).append (lift h2))

theorem step_acks {s s' : Server} {ev : Ev} {o : EvOut} (h : step s ev = some (s', o)) :
    RunAcks s.rib s'.rib (evAcks s ev o) := .of_refines (step_refines_acks h)

/-- **C01 at the server.** For every accepted history of the server model starting from a state
whose held operations are ADDs/REPLACEs (in particular from a new server), the installed entries
are the fold of the acknowledgements — operations answered RIB_PROGRAMMED on whichever stream, and
Flushes answered OK — over the initial contents. -/
theorem srv_c01_fold {s s' : Server} {evs : List Ev} {os : List EvOut}
    (h : run s evs = some (s', os)) (hp : C01.PendWf s.rib) :
    s'.rib.ents ≃ₘ (runAcks s evs).foldl applyAck s.rib.ents := by
  obtain ⟨ins, outs, hr, hw, ha, _⟩ := run_refines_acks h
  rw [← ha]
  exact C01.c01_fold hr hp hw

/-- from a new server (no contents yet): contents = `Spec.fold` of the acknowledgements -/
theorem srv_c01_fold_from_new (d : NI) (vrfs : List NI) (fwd hook : Bool) {s' : Server} {evs : List Ev} {os : List EvOut}
    (h : run (Server.new d vrfs fwd hook) evs = some (s', os)) :
    s'.rib.ents ≃ₘ Spec.fold (runAcks (Server.new d vrfs fwd hook) evs) := by
  obtain ⟨ins, outs, hr, hw, ha, _⟩ := new_run_refines d vrfs fwd hook h
  rw [← ha]
  exact C01.c01_fold_from_new d fwd hr hw

end Gribi.SrvFold
