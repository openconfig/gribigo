/-
Refinement: every step of the server model acts on its RIB by a run of the RIB model. Whatever the
sessions, elections, gates, protocol violations, disconnects, Gets and Flushes, the RIB inside
the server only ever changes through `Rib.add`, `Rib.del` and `Rib.flush` — so every theorem
proved for all RIB histories (counters = referrers, closure, contents = fold of the
acknowledgements, …) holds in every reachable server state.

The refinement is stated once, in its strongest form (`Refines`): the RIB run has well-formed
inputs (C01), acknowledges exactly what the server acknowledged (C01), and its flushes are full
unless the event is a Flush of one named instance (C02). `SrvFold` and `SrvClosed` read off
their halves.
-/
import Gribi.Lemmas.SrvStep
import Gribi.Props.C01
import Gribi.Props.C02
import Gribi.Props.C03

namespace Gribi.SrvFold
open Gribi Server Spec

def msgAcks (o : MsgOut) : List Ack := o.ribOuts.flatMap (fun ro => ro.oks.map Ack.prog)

def evAcks (s : Server) (ev : Ev) (o : EvOut) : List Ack :=
  match ev, o with
  | .msg _ _, .msg _ mo => msgAcks mo
  | .flush .all _, .flush r _ => if r.code = .ok then [.flushed s.rib.nis] else []
  | .flush (.name n) _, .flush r _ => if r.code = .ok then [.flushed [n]] else []
  | _, _ => []

def runAcks : Server → List Ev → List Ack
  | _, [] => []
  | s, ev :: rest =>
    match step s ev with
    | none => []
    | some (s1, o) => evAcks s ev o ++ runAcks s1 rest

end Gribi.SrvFold

namespace Gribi.SrvClosed

def NotNamedFlush : Server.Ev → Prop
  | .flush (.name _) _ => False
  | _ => True

end Gribi.SrvClosed

namespace Gribi.SrvRefine
open Gribi Server Spec SrvFold SrvClosed

theorem rib_run_append {r r1 r2 : Rib} {a b : List Rib.In} {oa ob : List Rib.Out}
    (h1 : Rib.run r a = some (r1, oa)) (h2 : Rib.run r1 b = some (r2, ob)) :
    Rib.run r (a ++ b) = some (r2, oa ++ ob) ∧
    C01.acksAll (a ++ b) (oa ++ ob) = C01.acksAll a oa ++ C01.acksAll b ob ∧
    (C02.FullFlushes r a → C02.FullFlushes r1 b → C02.FullFlushes r (a ++ b)) := by
  induction a generalizing r oa with
  | nil => cases h1; exact ⟨h2, rfl, fun _ hb => hb⟩
  | cons i rest ih =>
    obtain ⟨rm, o, os, hs, hr, rfl⟩ := Rib.run_cons.mp h1
    obtain ⟨e1, e2, e3⟩ := ih hr
    refine ⟨Rib.run_cons.mpr ⟨rm, o, os ++ ob, hs, e1, rfl⟩, ?_, fun ha hb => ⟨ha.1, fun s' o' hs' => ?_⟩⟩
    · simp only [List.cons_append, C01.acksAll, e2, List.append_assoc]
    · cases hs.symm.trans hs'
      exact e3 (ha.2 _ _ hs) hb

/-- A RIB run from `r` to `r'` that explains a stretch of server history: its inputs are what
`modifyEntry` and `Flush` hand to the RIB, it acknowledges `acks`, and if `full` every Flush in
it names all instances. -/
def Refines (r r' : Rib) (acks : List Ack) (full : Prop) : Prop :=
  ∃ ins outs, Rib.run r ins = some (r', outs) ∧ (∀ i ∈ ins, C01.inWf i) ∧ C01.acksAll ins outs = acks ∧
    (full → C02.FullFlushes r ins)

theorem Refines.nil (r : Rib) (full : Prop) : Refines r r [] full :=
  ⟨[], [], rfl, fun _ h => (List.not_mem_nil h).elim, rfl, fun _ => trivial⟩

theorem Refines.step {r r' : Rib} {i : Rib.In} {o : Rib.Out} (h : Rib.step r i = some (r', o)) (hw : C01.inWf i)
    {full : Prop} (hf : full → C02.flushFull r i) : Refines r r' (C01.acks i o) full :=
  ⟨[i], [o], Rib.run_cons.mpr ⟨r', o, [], h, rfl, rfl⟩, fun _ hi => List.mem_singleton.mp hi ▸ hw,
    List.append_nil _, fun x => ⟨hf x, fun _ _ _ => trivial⟩⟩

theorem Refines.append {r r1 r2 : Rib} {a b : List Ack} {full : Prop} (h1 : Refines r r1 a full)
    (h2 : Refines r1 r2 b full) : Refines r r2 (a ++ b) full := by
  obtain ⟨i1, o1, hr1, hw1, rfl, hf1⟩ := h1
  obtain ⟨i2, o2, hr2, hw2, rfl, hf2⟩ := h2
  obtain ⟨e1, e2, e3⟩ := rib_run_append hr1 hr2
  exact ⟨i1 ++ i2, o1 ++ o2, e1, fun i hi => (List.mem_append.mp hi).elim (hw1 i) (hw2 i), e2,
    fun hf => e3 (hf1 hf) (hf2 hf)⟩

theorem Refines.mono {r r' : Rib} {acks : List Ack} {f g : Prop} (h : Refines r r' acks f) (hg : g → f) :
    Refines r r' acks g := by
  obtain ⟨i, o, hr, hw, ha, hf⟩ := h
  exact ⟨i, o, hr, hw, ha, fun x => hf (hg x)⟩

/-- one operation of a batch: at most one RIB step, the one `modifyEntry` dispatches to -/
theorem modifyOne_refines {r r' : Rib} {c : Nat} {fib : Bool} {snap : ElecSnap} {op : Op} {script : List Rib.CEv}
    {ro : Rib.Out} {res : Resp ⊕ Term} (h : modifyOne r c fib snap op script = some (r', ro, res)) (full : Prop) :
    Refines r r' (ro.oks.map Ack.prog) full := by
  rcases modifyOne_spec h with ⟨rfl, rfl, _⟩ | ⟨_, i, hi, hs, _⟩
  · exact .nil _ _
  · rcases hi with ⟨rfl, hty, _⟩ | ⟨rfl, hty⟩
    · exact .step hs hty fun _ => trivial
    · exact .step hs hty fun _ => trivial

theorem loop_refines {c : Nat} {fib : Bool} {snap : ElecSnap} {r r' : Rib} {l : List (Op × List Rib.CEv)}
    {o : MsgOut} (h : Loop c fib snap r l r' o) (full : Prop) : Refines r r' (msgAcks o) full := by
  induction h with
  | nil => exact .nil _ _
  | skip _ _ ih => exact ih
  | stop _ h1 => simpa [msgAcks] using modifyOne_refines h1 full
  | next h1 _ ih => simpa [msgAcks] using (modifyOne_refines h1 full).append ih

/-- **refinement, one event**, in full: the RIB run acknowledges what the event acknowledged, and
only a Flush of one named instance flushes less than everything. -/
theorem step_refines_acks {s s' : Server} {ev : Ev} {o : EvOut} (h : step s ev = some (s', o)) :
    Refines s.rib s'.rib (evAcks s ev o) (NotNamedFlush ev) := by
  cases step_spec h with
  | connect | close | get => exact .nil _ _
  | flushRefused ni el r hr => cases ni <;> simpa [evAcks, hr] using Refines.nil _ _
  | flushAll el => exact .step (i := .flush s.rib.nis) rfl trivial fun _ n hn => hn
  | flushName n el => exact .step (i := .flush [n]) rfl trivial False.elim
  | msg c m cs s' o hcs hr =>
    cases hr with
    | rejected | params => exact .nil _ _
    | elec _ _ _ _ hrib => rw [hrib]; exact .nil _ _
    | ops l r' o hl => rw [finish_rib]; exact loop_refines (modifyLoop_spec hl) _

/-- **refinement, whole histories**, in full -/
theorem run_refines_acks {s s' : Server} {evs : List Ev} {os : List EvOut} (h : run s evs = some (s', os)) :
    Refines s.rib s'.rib (runAcks s evs) (∀ ev ∈ evs, NotNamedFlush ev) := by
  induction evs generalizing s os with
  | nil => cases h; exact .nil _ _
  | cons ev rest ih =>
    obtain ⟨s1, o, os', hs, hr, rfl⟩ := run_cons_eq_some h
    simp only [runAcks, hs]
    exact ((step_refines_acks hs).mono (fun hf => hf ev List.mem_cons_self)).append
      ((ih hr).mono (fun hf e he => hf e (List.mem_cons_of_mem _ he)))

theorem Refines.run {r r' : Rib} {acks : List Ack} {full : Prop} (h : Refines r r' acks full) :
    ∃ ins outs, Rib.run r ins = some (r', outs) :=
  h.imp fun _ => Exists.imp fun _ h => h.1

/-- **refinement, one event**: the RIB after the event is reached from the RIB before it by a run of the
RIB model. -/
theorem step_refines {s s' : Server} {ev : Ev} {o : EvOut} (h : step s ev = some (s', o)) :
    ∃ ins outs, Rib.run s.rib ins = some (s'.rib, outs) := (step_refines_acks h).run

/-- **refinement, whole histories**: likewise. -/
theorem run_refines {s s' : Server} {evs : List Ev} {os : List EvOut} (h : run s evs = some (s', os)) :
    ∃ ins outs, Rib.run s.rib ins = some (s'.rib, outs) := (run_refines_acks h).run

theorem drop_rib (s : Server) (c : Nat) : (s.drop c).rib = s.rib := rfl

theorem new_refines (d : NI) (vrfs : List NI) (fwd hook : Bool) (full : Prop) :
    Refines (Rib.new d fwd) (Server.new d vrfs fwd hook).rib [] full := by
  have hfold : ∀ (l : List NI) (r : Rib), Refines r (l.foldl (fun r n => (r.addNI n).1) r) [] full := by
    intro l
    induction l with
    | nil => exact fun r => .nil _ _
    | cons n rest ih => exact fun r => (Refines.step (i := .addNI n) rfl trivial fun _ => trivial).append (ih _)
  unfold Server.new
  cases hook with
  | false => exact hfold vrfs _
  | true => exact (Refines.step (i := .setHook) rfl trivial fun _ => trivial).append (hfold vrfs _)

/-- **refinement, whole histories of a new server**: the RIB run starts from the empty RIB -/
theorem new_run_refines (d : NI) (vrfs : List NI) (fwd hook : Bool) {s' : Server} {evs : List Ev} {os : List EvOut}
    (h : run (Server.new d vrfs fwd hook) evs = some (s', os)) :
    Refines (Rib.new d fwd) s'.rib (runAcks (Server.new d vrfs fwd hook) evs) (∀ ev ∈ evs, NotNamedFlush ev) :=
  (new_refines d vrfs fwd hook _).append (run_refines_acks h)

/-- **C03 at the server.** In every state the server model can reach from a new server — any
number of sessions, any interleaving of their parameters, announcements, batches, protocol
violations, disconnects, Gets and Flushes — every reference counter of the RIB equals the number
of installed referrers. -/
theorem srv_refinv (d : NI) (vrfs : List NI) (fwd hook : Bool) {s' : Server} {evs : List Ev} {os : List EvOut}
    (h : run (Server.new d vrfs fwd hook) evs = some (s', os)) : Gribi.Rib.Inv s'.rib := by
  obtain ⟨_, _, hr, _⟩ := new_run_refines d vrfs fwd hook h
  exact C03.c03_refinv d fwd hr

end Gribi.SrvRefine
